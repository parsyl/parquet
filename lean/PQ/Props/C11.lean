import PQ.Model.Reader
/-!
# C11 — a truncated file is never accepted

The literal statement ("every strict prefix of every valid file is rejected") is false for *any*
reader: a data value may contain a complete footer, its length and the magic, and the prefix ending
there is itself a well-formed Parquet file (`PQ.C11` cannot and does not claim it; the check lists
that crafted input as a known finding).  What is proved:

`accepted_has_trailer`: whatever bytes `NewParquetReader` accepts end with a complete trailer (`HasTrailer`:
a footer that decodes, its length, the magic).  Hence `truncated_rejected_unless_trailer`: every prefix that
does not itself end with such a trailer is rejected by the reader model at open time.

`truncated_rejected_partial`, a case in which no prefix has one: if the magic `PAR1` occurs in the file only
at its two ends, then every strict prefix is rejected — for every file, whatever it contains otherwise (the
reader checks the trailing magic before trusting the footer length).
-/
namespace PQ.C11

def magic : Bytes := [80, 65, 82, 49]

/-- `PAR1` occurs only at offset 0 and at offset `length - 4` -/
def NoInnerMagic (F : Bytes) : Prop := ∀ o, o + 4 ≤ F.length → (F.drop o).take 4 = magic → o = 0 ∨ o + 4 = F.length

theorem drop_take_prefix (F : Bytes) (n : Nat) (hn : n ≤ F.length) (h4 : 4 ≤ n) :
    (F.take n).drop ((F.take n).length - 4) = (F.drop (n - 4)).take 4 := by
  rw [List.length_take, Nat.min_eq_left hn, List.drop_take, Nat.sub_sub_self h4]

theorem short_rejected (cols : List Col) (dc : Decomp) (F : Bytes) (h : F.length < 8) :
    openReader cols dc F = .error .err := by
  unfold openReader; rw [if_pos h]

/-- a byte string that is itself a complete file as far as `NewParquetReader` can tell: it ends with a
footer that the thrift decoder accepts as a `FileMetaData`, the footer's length, and the magic -/
def HasTrailer (P : Bytes) : Prop :=
  8 ≤ P.length ∧ P.drop (P.length - 4) = magic ∧
  fromLE ((P.drop (P.length - 8)).take 4) + 8 ≤ P.length ∧
  ∃ t s f, ({ data := P, pos := P.length - (fromLE ((P.drop (P.length - 8)).take 4) + 8) } : Src).readStruct = .ok (t, s) ∧
    decFMD t = some f

/-- **What is accepted at all.**  Whatever bytes the reader is given (a prefix of a file or anything else): if
`NewParquetReader` succeeds, the bytes end with a complete trailer — magic, length, and a footer that decodes.
So the only strict prefixes that can ever be accepted are those that are themselves well-formed up to their
own footer (the known finding: a data value holding a complete trailer); every other truncation is refused
when the file is opened, before any page is read. -/
theorem accepted_has_trailer (cols : List Col) (dc : Decomp) (P : Bytes) (st : RState)
    (h : openReader cols dc P = .ok st) : HasTrailer P := by
  unfold openReader at h
  by_cases h8 : P.length < 8
  · rw [if_pos h8] at h; exact absurd h (by simp)
  · rw [if_neg h8] at h
    by_cases hm : P.drop (P.length - 4) ≠ [80, 65, 82, 49]
    · rw [if_pos hm] at h; exact absurd h (by simp)
    · rw [if_neg hm] at h
      simp only at h
      by_cases hs : fromLE ((P.drop (P.length - 8)).take 4) + 8 > P.length
      · rw [if_pos hs] at h; exact absurd h (by simp)
      · rw [if_neg hs] at h
        cases hr : ({ data := P, pos := P.length - (fromLE ((P.drop (P.length - 8)).take 4) + 8) } : Src).readStruct with
        | error e => rw [hr] at h; exact absurd h (by simp)
        | ok r =>
          obtain ⟨t, s⟩ := r
          rw [hr] at h
          simp only at h
          cases hd : decFMD t with
          | none => rw [hd] at h; exact absurd h (by simp)
          | some f =>
            refine ⟨by omega, ?_, by omega, t, s, f, hr, hd⟩
            exact Decidable.not_not.mp hm

theorem rejected_unless_trailer (cols : List Col) (dc : Decomp) (P : Bytes) (h : ¬ HasTrailer P) :
    ∃ e, openReader cols dc P = .error e := by
  cases ho : openReader cols dc P with
  | error e => exact ⟨e, rfl⟩
  | ok st => exact absurd (accepted_has_trailer cols dc P st ho) h

theorem truncated_rejected_unless_trailer (cols : List Col) (dc : Decomp) (F : Bytes) (n : Nat)
    (h : ¬ HasTrailer (F.take n)) : ∃ e, openReader cols dc (F.take n) = .error e :=
  rejected_unless_trailer cols dc _ h

theorem no_trailing_magic_rejected (cols : List Col) (dc : Decomp) (F : Bytes)
    (h : F.drop (F.length - 4) ≠ magic) : ∃ e, openReader cols dc F = .error e :=
  rejected_unless_trailer cols dc F (fun ht => h ht.2.1)

/-- every strict prefix of a file without inner magic is rejected when it is opened: its last four
bytes are `F[n-4 .. n)`, which `NoInnerMagic` forbids to be the magic -/
theorem truncated_rejected_partial (cols : List Col) (dc : Decomp) (F : Bytes) (h : NoInnerMagic F)
    (n : Nat) (hn : n < F.length) : ∃ e, openReader cols dc (F.take n) = .error e := by
  apply rejected_unless_trailer
  rintro ⟨h8, hm, _⟩
  rw [List.length_take, Nat.min_eq_left (Nat.le_of_lt hn)] at h8
  rw [drop_take_prefix F n (Nat.le_of_lt hn) (by omega)] at hm
  rcases h (n - 4) (by omega) hm with h0 | h1 <;> omega

example : NoInnerMagic (magic ++ [1, 2, 3, 4, 5, 6, 7, 8] ++ magic) := by
  have key : ∀ o < 13, ((magic ++ [1, 2, 3, 4, 5, 6, 7, 8] ++ magic).drop o).take 4 = magic →
      o = 0 ∨ o + 4 = (magic ++ [1, 2, 3, 4, 5, 6, 7, 8] ++ magic).length := by decide +kernel
  intro o ho
  exact key o (by simp [magic] at ho; omega)

end PQ.C11
