import PQ.Model.Reader
/-!
# C18 — files outside the supported subset are refused, not misread

Theorems about the reader model (which is compared with the generated reader on every mutant):

* `required_refuses`, `optional_refuses`: a page whose header is not a v1 data page with PLAIN
  values (and RLE levels where the column has levels) makes the chunk read fail with an error —
  before any of its bytes are interpreted as values.
* `codec_refused`: a codec other than uncompressed/snappy/gzip is an error.
* `checked_page_total`: once `checkPage` holds, the data page header is present, so the header
  dereference that used to panic cannot.
* `checkPage_spec`: exactly which headers are accepted.

The whole-file theorem of the property is `PQ.readOutcome_specWrite_mutated` (`PQ/Lemmas/ForeignMut.lean`).
-/
namespace PQ.C18

theorem checkPage_spec (ph : PHdr) (defs reps : Bool) :
    checkPage ph defs reps = true ↔
      ph.ty = 0 ∧ ∃ nv enc denc renc st, ph.dph = some (nv, enc, denc, renc, st) ∧ enc = 0 ∧
        (defs = true → denc = 3) ∧ (reps = true → renc = 3) := by
  unfold checkPage
  cases h : ph.dph with
  | none => simp
  | some d =>
    obtain ⟨nv, enc, denc, renc, st⟩ := d
    simp [and_assoc, Decidable.imp_iff_not_or]

/-- the translator recognised `checkPage` of the working tree as a sequence of guards -/
theorem checkPage_translated : PQ.Gen.Facts.checkPageTranslated = true := by decide

/-- **the reader model's `checkPage` IS the working tree's `checkPage`** (`Facts.checkPageGen` is regenerated
from fields.go on every run; constants come from schema/parquet.go): same verdict on every page header -/
theorem checkPage_eq_source (ph : PHdr) (defs reps : Bool) :
    checkPage ph defs reps =
      PQ.Gen.Facts.checkPageGen ph.ty ph.dph.isSome
        (match ph.dph with | some (_, e, _, _, _) => e | none => 0)
        (match ph.dph with | some (_, _, d, _, _) => d | none => 0)
        (match ph.dph with | some (_, _, _, r, _) => r | none => 0) defs reps := by
  unfold checkPage PQ.Gen.Facts.checkPageGen
  cases h : ph.dph with
  | none => simp
  | some d =>
    obtain ⟨nv, enc, denc, renc, st⟩ := d
    rw [Bool.eq_iff_iff]
    simp [and_assoc]

/-- `pageData` of the working tree switches on exactly the codecs the model handles, and refuses the rest
(`Facts.pageDataCodecs` and `pageDataDefaultErrors` are regenerated from fields.go on every run) -/
theorem pageData_codecs_source : PQ.Gen.Facts.pageDataTranslated = true ∧ PQ.Gen.Facts.pageDataDefaultErrors = true ∧
    ∀ c : Int, c ∈ PQ.Gen.Facts.pageDataCodecs ↔ (c = 0 ∨ c = 1 ∨ c = 2) := by
  refine ⟨by decide, by decide, ?_⟩
  intro c
  simp only [PQ.Gen.Facts.pageDataCodecs, List.mem_cons, List.not_mem_nil, or_false]
  omega

theorem checked_page_total (ph : PHdr) (defs reps : Bool) (h : checkPage ph defs reps = true) :
    ∃ nv, numValuesOf ph = .ok nv := by
  obtain ⟨_, nv, enc, denc, renc, st, hd, _⟩ := (checkPage_spec ph defs reps).mp h
  exact ⟨nv, by unfold numValuesOf; rw [hd]⟩

theorem required_refuses (dc : Decomp) (pg : PageMeta) (fuel : Nat) (s s' : Src) (nRead : Int) (out : Bytes) (sizes : List Int)
    (t : Thrift.TVal) (ph : PHdr) (hlt : nRead < pg.n) (hs : s.readStruct = .ok (t, s')) (hp : decPHdr t = some ph)
    (hbad : checkPage ph false false = false) :
    requiredDoRead dc pg (fuel + 1) s nRead out sizes = .error .err := by
  unfold requiredDoRead
  rw [if_pos hlt]
  simp only [hs, hp, hbad, bind, Except.bind, pure, Except.pure]
  rfl

theorem optional_refuses (dc : Decomp) (c : Col) (pg : PageMeta) (fuel : Nat) (s s' : Src) (nRead : Int) (buf : ColBuf) (out : Bytes)
    (sizes : List Int) (t : Thrift.TVal) (ph : PHdr) (hlt : nRead < pg.size) (hs : s.readStruct = .ok (t, s')) (hp : decPHdr t = some ph)
    (hbad : checkPage ph true (decide (c.maxRep > 0)) = false) :
    optionalDoRead dc c pg (fuel + 1) s nRead buf out sizes = .error .err := by
  unfold optionalDoRead
  rw [if_pos hlt]
  simp only [hs, hp, hbad, bind, Except.bind, pure, Except.pure]
  rfl

theorem codec_refused (dc : Decomp) (s : Src) (ph : PHdr) (codec : Int) (h0 : codec ≠ 0) (h1 : codec ≠ 1) (h2 : codec ≠ 2) :
    pageData dc s ph codec = .error .err := by
  unfold pageData
  rw [if_neg h1, if_neg h2, if_neg h0]

example : checkPage { ty := 2, uncompressed := 4, compressed := 4, dph := none, hasDict := true, hasIndex := false, hasV2 := false } true false = false := by decide
example : checkPage { ty := 0, uncompressed := 4, compressed := 4, dph := some (3, 0, 3, 3, none), hasDict := false, hasIndex := false, hasV2 := false } true true = true := by decide
example : checkPage { ty := 0, uncompressed := 4, compressed := 4, dph := some (3, 8, 3, 3, none), hasDict := false, hasIndex := false, hasV2 := false } false false = false := by decide

end PQ.C18
