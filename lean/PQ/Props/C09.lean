import PQ.Model.IO
/-!
# C09 — a failed write to the destination is always reported

* `checked_fault_reported`: a sequence of I/O steps whose every error is checked/returned reports
  a failure of its `k`-th step, for every `k` — nothing is swallowed.
* `sink_sites_propagate`, `sink_calls_propagate`: in the working tree (inventories regenerated on
  every run) every write on the sink and every call of a function that writes the sink
  (`Field.Write`, `DoWrite`, `WritePageHeader`, `Footer`) has its error checked or returned.
* `failing_call`: with the sink failing at its `k`-th write, the API call (constructor, `Write`,
  `Close`) during which that write happens is the one that returns the error; the model's list of
  sink writes per API call (`runWriter`) is what the harness compares, exhaustively over `k`.
The whole-run theorem of the property is `PQ.faultRun_reports` (`PQ/Lemmas/SinkFault.lean`).
Not carried by a theorem: absence of panics in the Go runtime (observed by the harness).
-/
namespace PQ.C09
open PQ.IO PQ.Gen

theorem checked_fault_reported : ∀ (steps : List Bool) (k : Nat), steps.all id = true → 1 ≤ k → k ≤ steps.length →
    runFault steps k = .err := by
  intro steps
  induction steps with
  | nil => intro k _ h1 h2; simp at h2; omega
  | cons s rest ih =>
    intro k hall h1 h2
    simp only [List.all_cons, Bool.and_eq_true, id] at hall
    unfold runFault
    by_cases hk : k = 1
    · rw [if_pos hk, hall.1]; rfl
    · rw [if_neg hk]
      exact ih (k - 1) hall.2 (by omega) (by simp at h2; omega)

/-- a dropped error is exactly what makes a fault invisible -/
theorem dropped_fault_swallowed (pre post : List Bool) (hpre : pre.all id = true) :
    runFault (pre ++ false :: post) (pre.length + 1) = .swallowed := by
  induction pre with
  | nil => simp [runFault]
  | cons s rest ih =>
    simp only [List.all_cons, Bool.and_eq_true] at hpre
    simp only [List.cons_append, List.length_cons]
    unfold runFault
    rw [if_neg (by omega)]
    simpa using ih hpre.2

theorem sink_sites_propagate : (Facts.sinkSiteList.all Site.propagates) = true := by decide
theorem sink_calls_propagate : (Facts.sinkPropList.all Site.propagates) = true := by decide

/-- no library object other than a thrift stream transport is handed the sink itself (a buffered
writer would delay and could swallow write errors) -/
theorem sink_extern_allowed : (Facts.sinkExternList.all fun s =>
    s == "thrift.StreamTransport" || s == "thrift.NewStreamTransportW" || s == "thrift.NewStreamTransport") = true := by decide

/-- the inventories have not silently gone empty (e.g. after a rename the extractor no longer
recognises): there are still sink writes and calls leading to them. Deliberately weak, so that
extracting helpers or renaming functions does not trip it. -/
theorem sink_inventory_covers : 3 ≤ Facts.sinkSiteList.length ∧ 3 ≤ Facts.sinkPropList.length := by decide

/-- index of the API call during which the `k`-th sink write (1-based) happens -/
def failingCall : List (List Bytes) → Nat → Option Nat
  | [], _ => none
  | c :: cs, k => if k ≤ c.length then some 0 else (failingCall cs (k - c.length)).map (· + 1)

theorem failing_call (calls : List (List Bytes)) (k : Nat) (h1 : 1 ≤ k) (h2 : k ≤ (calls.map List.length).sum) :
    ∃ i, failingCall calls k = some i ∧ i < calls.length ∧
      ((calls.take i).map List.length).sum < k ∧ k ≤ ((calls.take (i+1)).map List.length).sum := by
  induction calls generalizing k with
  | nil => simp at h2; omega
  | cons c cs ih =>
    unfold failingCall
    by_cases hk : k ≤ c.length
    · rw [if_pos hk]
      exact ⟨0, rfl, by simp, by simp; omega, by simp; omega⟩
    · rw [if_neg hk]
      simp only [List.map_cons, List.sum_cons] at h2
      obtain ⟨i, hi, hlt, ha, hb⟩ := ih (k - c.length) (by omega) (by omega)
      refine ⟨i + 1, by rw [hi]; rfl, by simp; omega, ?_, ?_⟩
      · simp only [List.take_succ_cons, List.map_cons, List.sum_cons]; omega
      · simp only [List.take_succ_cons, List.map_cons, List.sum_cons]; omega

example : runFault [true, true, true] 2 = .err := by decide
example : runFault [true, false, true] 2 = .swallowed := by decide
example : failingCall [[[1]], [], [[2], [3]]] 3 = some 2 := by decide

end PQ.C09
