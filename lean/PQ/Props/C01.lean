import PQ.Props.C07
import PQ.Lemmas.ReaderRT
/-!
# C01 — write-then-read returns exactly the records that were added

The round trip is carried by layer theorems over the model: each layer of the written file (levels, records,
thrift headers, values, pages) is inverted by the corresponding layer of the reader or of the specification.

`roundtrip` is the full statement over the model: for every struct shape (well-formed field forest),
every history of Add/Write ending in Close, every page size ≥ 1 and every codec with a correct
decompressor, the reader model applied to the bytes the writer model produced reports
`Rows()` = the number of written records, `Next()` true exactly that many times, every `Scan`
delivering exactly the record's per-column entries (hence, by `scan_is_projection`, the record's
projection), and no error.  The executable writer and reader models are compared with the
implementation exactly on every run.  The two aliasing clauses of the property are runtime facts no
pure model exhibits (explored by the harness only: partial).
-/
namespace PQ.C01

/-- levels written by the encoder are read back by the library decoder (any continuation `rest`) -/
theorem levels_roundtrip (w : Nat) (hw : 1 ≤ w ∧ w ≤ 4) (xs : List Nat) (hx : ∀ x ∈ xs, x < 2 ^ w)
    (hlen : xs.length + 8 ≤ 2 ^ 30) (rest : Bytes) :
    ∃ pad, pad < 8 ∧ implDecode w (encode w xs ++ rest) = .ok (xs ++ List.replicate pad 0, (encode w xs).length) :=
  PQ.C07.impl_decode_encode w hw xs hx hlen rest

/-- a column's entry stream for a list of records splits back into the records' stripes and each
assembles to the record's projection -/
theorem records_roundtrip {α : Type} (ts : List Rep) (vs : List (Proj α ts)) (fuel : Nat) (hf : vs.length ≤ fuel) :
    (splitRecords fuel (vs.flatMap (stripeTop ts))).map (assembleTop ts) = vs.map (fun v => some (v, [])) :=
  PQ.C03.assemble_splitRecords ts vs fuel hf

/-- thrift structures (page headers, footer) decode to what was encoded, leaving the rest of the input -/
theorem header_roundtrip (v : PQ.Thrift.TVal) (h : v.WF) (fuel : Nat) (rest : Bytes) (hf : v.size ≤ fuel) :
    PQ.Thrift.decVal v.ecode fuel (v.enc ++ rest) = some (v, rest) :=
  PQ.Thrift.decVal_enc v h fuel rest hf

/-- PLAIN values written for one or many pages are read back by the reader's value decoder
(incl. the per-page bit-packing of booleans across several pages) -/
theorem values_roundtrip (ty : PType) (pages : List (List Bytes)) (h : ∀ vs ∈ pages, ∀ v ∈ vs, WTVal ty v) :
    readValues ty pages.flatten.length (pages.flatMap (plainValues ty)) (pages.map fun vs => (vs.length : Int)) = .ok pages.flatten :=
  PQ.readValues_pages ty pages h

/-- a whole page (header + payload, any of the three codecs with a correct decompressor) parsed by
the specification-side page parser yields exactly the entries that were written -/
theorem page_roundtrip (dc : Decomp) (k : Codec) (codec : Int) (c : Col) (es : PageEntries) (hwf : WFPage c es)
    (hk : CodecOK dc k codec (pagePayload c es)) (pre rest : Bytes) :
    specPage dc c codec (pre ++ (pageBytes k c es).1 ++ (pageBytes k c es).2 ++ rest) pre.length =
      .ok { numValues := es.length, entries := es, headerLen := (pageBytes k c es).1.length,
            compressedLen := (pageBytes k c es).2.length, uncompressedLen := (pagePayload c es).length,
            stats := some (pageStatsFields c es) } :=
  PQ.specPage_pageBytes_codec dc k codec c es hwf hk pre rest

/-- **C01, full statement over the model** (reader model ∘ writer model = identity on the written
batches). `ColsResolve`: the joined column names are pairwise distinct (checkable by
`colsResolve_of_check`); the other hypotheses are those of `PQ.C02.file_valid`. -/
theorem roundtrip (dc : Decomp) (k : Codec) (ts : List FTree) (hwf : ∀ t ∈ ts, t.WF) (hsd : SiblingsDistinct ts)
    (max : Nat) (body : List Op) (hmax : 1 ≤ max) (hcols : colsOf ts ≠ []) (hres : ColsResolve (colsOf ts))
    (hbody : ∀ op ∈ body, op.isClose = false)
    (hrec : ∀ r, Op.add r ∈ body → r.length = (colsOf ts).length ∧ ∀ x ∈ (colsOf ts).zipIdx, RecColOK x.1 (r.getD x.2 []))
    (hdef : ∀ c ∈ colsOf ts, c.maxDef ≤ 15)
    (hlen : ∀ b ∈ batches body, ∀ x ∈ (colsOf ts).zipIdx, (b.flatMap (·.getD x.2 [])).length + 8 ≤ 2 ^ 30)
    (hcodec : ∀ raw, CodecOK dc k (k.id : Int) raw)
    (hsize : (fileBytes (runWriter (colsOf ts) max k (body ++ [Op.close]))).length < 2 ^ 32) :
    readAllEntries (colsOf ts) dc (fileBytes (runWriter (colsOf ts) max k (body ++ [Op.close]))) =
      some (((((batches body).map List.length).sum : Nat) : Int),
            (batches body).flatten.map (fun r => (List.range (colsOf ts).length).map fun i => r.getD i [])) := by
  obtain ⟨se, h1, _, _, _⟩ := schema_valid ts hwf hsd
  exact readAll_runWriter_records dc k (colsOf ts) max body hmax hcols hres hbody hrec hdef hlen hcodec hsize se h1

/-- what `Scan` writes for a column whose entries are the striping of a projection is that projection -/
theorem scan_is_projection (c : Col) (showP : (ts : List Rep) → Proj Bytes ts → String) (v : Proj Bytes c.reps) :
    scanText c showP (stripeTop c.reps v) = showP c.reps v := by
  by_cases hreq : c.isRequired = true
  · obtain ⟨x, hx, hz⟩ := stripe_required c.reps ((all_req_iff _).1 hreq) 0 0 0 v
    rw [stripeTop, hx]
    simp only [scanText, if_pos hreq, Option.getD_some, hz]
  · obtain ⟨e, tl, he, _, _⟩ := PQ.C03.first_rep_zero c.reps v
    have ha := PQ.C03.assemble_stripe_nil c.reps v
    rw [he] at ha ⊢
    simp only [scanText, if_neg hreq, ha]

end PQ.C01
