import PQ.Model.IO
import PQ.Model.Reader
/-!
# C08 — reading does not depend on how the source fragments its reads

* `readFull_indep`: `io.ReadFull` over *any* fragmentation schedule (any grant sizes ≥ 1, EOF
  reported together with the last bytes or not) returns exactly the requested bytes, or fails
  exactly when fewer are available — independent of the schedule.
* `no_single_read_sites`: in the working tree (inventory regenerated on every run) no read on the
  source is a bare single `Read`: every site is `io.ReadFull`/`io.CopyN`/`binary.Read`, a `Seek`,
  or the pass-through of `readCounter`; the remaining reads are inside the thrift transport.
* The reader model (`PQ.Src.readExactly`, `PQ.Src.readStruct`) consumes the source only through
  functions of (bytes, position): `model_read_is_readExactly`.
Not carried by a theorem: that the thrift library's transport performs full reads (trusted,
exercised by the fragmenting-source runs).
-/
namespace PQ.C08
open PQ.IO PQ.Gen

theorem granted_pos (σ : Sched) (i req avail : Nat) : 1 ≤ granted σ i req avail :=
  Nat.le_max_left _ _

theorem granted_le (σ : Sched) (i req avail : Nat) (hr : 1 ≤ req) (ha : 1 ≤ avail) :
    granted σ i req avail ≤ req ∧ granted σ i req avail ≤ avail :=
  ⟨Nat.max_le.mpr ⟨hr, Nat.le_trans (Nat.min_le_right _ _) (Nat.min_le_left _ _)⟩,
   Nat.max_le.mpr ⟨ha, Nat.le_trans (Nat.min_le_right _ _) (Nat.min_le_right _ _)⟩⟩

theorem readFull_spec (σ : Sched) : ∀ (fuel i n : Nat) (src acc : Bytes), n ≤ fuel →
    (readFull σ fuel i n src acc).map (fun r => (r.1, r.2.1)) =
      (if src.length < n then none else some (acc ++ src.take n, src.drop n)) := by
  intro fuel
  induction fuel with
  | zero =>
    intro i n src acc h
    have : n = 0 := by omega
    subst this
    simp [readFull]
  | succ fuel ih =>
    intro i n src acc h
    cases n with
    | zero => simp [readFull]
    | succ n =>
      unfold readFull
      by_cases hs : src = []
      · subst hs; simp
      · rw [if_neg hs]
        have hlen : 1 ≤ src.length := List.length_pos_iff.mpr hs
        obtain ⟨hg, hga⟩ := granted_le σ i (n+1) src.length (by omega) hlen
        have hp := granted_pos σ i (n+1) src.length
        generalize granted σ i (n+1) src.length = g at hg hga hp ⊢
        rw [ih (i+1) (n + 1 - g) _ _ (by omega), List.length_drop]
        by_cases hlt : src.length < n + 1
        · rw [if_pos hlt, if_pos (by omega)]
        · rw [if_neg hlt, if_neg (by omega), List.append_assoc, ← List.take_add, List.drop_drop, Nat.add_sub_of_le hg]

/-- over any fragmentation schedule `io.ReadFull` hands back the first `n` bytes of the source and leaves the rest, or
fails exactly when fewer than `n` are there: `readExactly`, in which no schedule occurs -/
theorem readFull_indep (σ : Sched) (i n : Nat) (src : Bytes) :
    (readFull σ n i n src []).map (fun r => (r.1, r.2.1)) = readExactly n src := by
  rw [readFull_spec σ n i n src [] (Nat.le_refl _)]
  simp [readExactly]

theorem readFull_sched_indep (σ τ : Sched) (i j n : Nat) (src : Bytes) :
    (readFull σ n i n src []).map (fun r => (r.1, r.2.1)) = (readFull τ n j n src []).map (fun r => (r.1, r.2.1)) := by
  rw [readFull_indep, readFull_indep]

theorem model_read_is_readExactly (s : Src) (n : Nat) :
    (s.readExactly n).toOption.map (fun r => (r.1, r.2.pos)) =
      (readExactly n (s.data.drop s.pos)).map (fun r => (r.1, s.pos + n)) := by
  unfold Src.readExactly readExactly
  simp only [List.length_take, List.length_drop]
  by_cases h : min n (s.data.length - s.pos) < n
  · rw [if_pos h, if_pos (by omega)]; rfl
  · rw [if_neg h, if_neg (by omega)]; rfl

/-- every read on the source in the working tree is a full read (or a seek / pass-through) -/
theorem no_single_read_sites : (Facts.sourceSiteList.all fun s => s.kind != .single) = true := by decide

/-- the inventory has not silently gone empty: there are still full reads of page/footer data -/
theorem source_inventory_covers : 4 ≤ Facts.sourceSiteList.length ∧
    2 ≤ (Facts.sourceSiteList.filter fun s => s.kind == .full).length := by decide

/-- the only library objects that are handed the source itself are thrift's stream transports (whose
reads are trusted to be full reads and are exercised by the fragmenting-source runs) -/
theorem source_extern_allowed : (Facts.sourceExternList.all fun s =>
    s == "thrift.StreamTransport" || s == "thrift.NewStreamTransportR" || s == "thrift.NewStreamTransport") = true := by decide

/-- in the working tree (`Facts.sourceSiteList`, regenerated on every run) the error of every read or seek on the
source is checked or returned, none is dropped -/
theorem source_sites_propagate : (Facts.sourceSiteList.all Site.propagates) = true := by decide

example : ∃ σ : Sched, ∀ i r a, granted σ i r a = 1 := ⟨⟨fun _ _ => 0, fun _ => true⟩, by intros; simp [granted]⟩
example : (readFull ⟨fun _ _ => 1, fun _ => true⟩ 3 0 3 [1, 2, 3, 4] []).map (fun r => (r.1, r.2.1)) = some ([1, 2, 3], [4]) := by decide

end PQ.C08
