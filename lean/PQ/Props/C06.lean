import PQ.Lemmas.Writer
/-!
# C06 — every Add/Write/Close history gives one row group per non-empty batch

All statements are about the executable writer model `PQ/Model/Writer.lean` (which the harness
compares byte-for-byte with the Go writer).  Specification vocabulary (defined in
`PQ/Lemmas/Writer.lean`):

* `batches ops`     – the records between consecutive `Write`s, empty batches dropped, records after
                      the last `Write` dropped;  `pendingOf ops` – the records after the last `Write`;
* `chunksOf max rs` – `rs` cut by `take max` / `drop max`;  `pageOf n chunk` – the page holding `chunk`;
* `chainOf max n pend` – `[emptyPage n]` if nothing is pending, else `(chunksOf max pend).map (pageOf n)`;
* `batchRG cols max codec b` / `batchOut cols max codec b` – the row group / the sink writes of batch `b`;
* `s.exec ops` – the state after the calls `ops`;  `s.outs ops` – the sink writes of each call.

Hypotheses: `1 ≤ max` everywhere the chain is involved (for `max = 0` Go's `Add` recurses forever),
`cols ≠ []` where row groups are counted (with no columns a `Write` touches no page and therefore
records no `NumRows`).
-/
namespace PQ.C06
open PQ PQ.Thrift

/-- The state reached by any history is completely determined by `pendingOf ops` and `batches ops`. -/
theorem state_is_stateOf {max : Nat} (hmax : 1 ≤ max) (cols : List Col) (hcols : cols ≠ [])
    (codec : Codec) (ops : List Op) :
    (WState.init cols max codec).exec ops =
      stateOf cols max codec (pendingOf ops) (batches ops) (addCount ops) := by
  rw [init_eq_stateOf, (run_stateOf hmax cols hcols codec ops [] [] 0).1]
  simp [pendingOf, batches]

/-! ## A `Write` with nothing pending is inert -/

/-- `Write()` when the head page is empty returns at once: same state, no sink write; hence the run
with that call has one more entry `some []`, and the byte stream is unchanged. -/
theorem empty_write_inert (s : WState) (h : (s.pages.head?.map (·.len)).getD 0 = 0) :
    s.write = (s, []) ∧
    (∀ ops, runOps s (Op.write :: ops) = some [] :: runOps s ops) ∧
    (∀ ops, fileBytes (runOps s (Op.write :: ops)) = fileBytes (runOps s ops)) := by
  have hw : s.write = (s, []) := write_empty s h
  have hr : ∀ ops, runOps s (Op.write :: ops) = some [] :: runOps s ops := by
    intro ops
    simp [runOps, WState.step, hw]
  refine ⟨hw, hr, fun ops => ?_⟩
  rw [hr, fileBytes_cons]
  rfl

/-- Whole-history form: a `Write` issued when no record is pending (`pendingOf pre = []`) can be
deleted from the history without changing a single byte of the file, whatever follows. -/
theorem empty_write_inert_file {max : Nat} (hmax : 1 ≤ max) (cols : List Col) (hcols : cols ≠ [])
    (codec : Codec) (pre post : List Op) (hpre : ∀ op ∈ pre, op.isClose = false)
    (hpend : pendingOf pre = []) :
    fileBytes (runWriter cols max codec (pre ++ Op.write :: post)) =
      fileBytes (runWriter cols max codec (pre ++ post)) := by
  unfold runWriter
  rw [runOps_append _ pre _ hpre, runOps_append _ pre _ hpre]
  have hs : ((WState.init cols max codec).exec pre).headLen = 0 := by
    rw [state_is_stateOf hmax cols hcols, stateOf_headLen hmax]
    exact hpend
  rw [fileBytes_cons, fileBytes_cons, fileBytes_append, fileBytes_append, (empty_write_inert _ hs).2.2 post]

/-- … and the row groups (hence the footer) are the same as well. -/
theorem empty_write_inert_batches (pre post : List Op) (hpend : pendingOf pre = []) :
    batches (pre ++ Op.write :: post) = batches (pre ++ post) := by
  unfold pendingOf at hpend
  simp only [batches, batchesAux_append, hpend, batchesAux, List.isEmpty_nil, if_true]

/-! ## `Add` builds exactly `chunksOf max pending` -/

/-- After adding the records `rs ≠ []` one by one to a fresh chain, the chain is `rs` cut into
consecutive chunks of `max` records, one page per chunk. -/
theorem chain_is_chunks {max : Nat} (hmax : 1 ≤ max) (n : Nat) (rs : List Rec) (hrs : rs ≠ []) :
    rs.foldl (addToChain max n) [emptyPage n] = (chunksOf max rs).map (pageOf n) := by
  rw [chain_add_all hmax, chainOf_of_ne_nil max n hrs]

/-- The shape of the chain: page lengths are the chunk lengths, the chunks concatenate to `rs`,
every page holds between `1` and `max` records, every page but the last is full. -/
theorem chain_shape {max : Nat} (hmax : 1 ≤ max) (n : Nat) (rs : List Rec) (hrs : rs ≠ []) :
    let pages := rs.foldl (addToChain max n) [emptyPage n]
    pages.map (·.len) = (chunksOf max rs).map List.length ∧
    (chunksOf max rs).flatten = rs ∧
    (pages.map (·.len)).sum = rs.length ∧
    pages ≠ [] ∧
    (∀ p ∈ pages, 1 ≤ p.len ∧ p.len ≤ max) ∧
    (∀ p ∈ pages.dropLast, p.len = max) := by
  intro pages
  have hp : pages = (chunksOf max rs).map (pageOf n) := chain_is_chunks hmax n rs hrs
  have hnf := chunksOf_NF hmax rs hrs
  clear_value pages
  subst hp
  refine ⟨map_len_pageOf n _, chunksOf_flatten hmax rs, ?_, ?_, ?_, ?_⟩
  · rw [map_len_pageOf, ← List.length_flatten, chunksOf_flatten hmax]
  · simpa using NF_ne_nil _ hnf
  · exact List.forall_mem_map.mpr fun c hc => by rw [pageOf_len]; exact NF_mem _ hnf c hc
  · rw [← List.map_dropLast]
    exact List.forall_mem_map.mpr fun c hc => by rw [pageOf_len]; exact NF_dropLast_full _ hnf c hc

/-- The chain of `k ≥ 1` pending records has `⌈k / max⌉` pages. -/
theorem chain_page_count {max : Nat} (hmax : 1 ≤ max) (n : Nat) (rs : List Rec) (hrs : rs ≠ []) :
    (rs.foldl (addToChain max n) [emptyPage n]).length = (rs.length + max - 1) / max := by
  rw [chain_is_chunks hmax n rs hrs, List.length_map, chunksOf_length hmax]

/-- Column contents: for well-formed records (one entry list per column) the pages of column `i`,
concatenated along the chain, are the records' entries for column `i`, in order. -/
theorem chain_columns {max : Nat} (hmax : 1 ≤ max) (n i : Nat) (hi : i < n) (rs : List Rec)
    (hwf : ∀ r ∈ rs, r.length = n) :
    (rs.foldl (addToChain max n) [emptyPage n]).flatMap (·.cols.getD i []) = rs.flatMap (·.getD i []) := by
  rw [chain_add_all hmax, ← colEntries_flatten hmax n i hi rs hwf, colEntries, List.flatMap_def]

/-! ## Row groups refine batches -/

theorem footerT_eq (s : WState) :
    footerT s = (schemaElems s.cols).map fun se =>
      TVal.struct [(1, .int 5 1), (2, .list 12 (se.map SElem.toT)),
                   (3, .int 6 (((s.rgs.filter (·.numRows ≠ 0)).map (·.numRows)).sum : Nat)),
                   (4, .list 12 (rowGroupsT s.cols s.codec.id s.rgs 4))] := by
  unfold footerT
  rw [sum_map_cast]
  cases schemaElems s.cols <;> rfl

/-- One row group per non-empty batch, in order; the open row group is always untouched; the
pending count is the chain's total; the footer's `num_rows` is the number of records in batches. -/
theorem rowgroups_refine_batches {max : Nat} (hmax : 1 ≤ max) (cols : List Col) (hcols : cols ≠ [])
    (codec : Codec) (ops : List Op) :
    let s := (WState.init cols max codec).exec ops
    -- the closed row groups are exactly the row groups of the batches, in order
    s.rgs.dropLast = (batches ops).map (batchRG cols max codec) ∧
    (s.rgs.dropLast.filter (·.numRows ≠ 0)).map (·.numRows) = (batches ops).map List.length ∧
    s.rgs.dropLast.map (·.numRows) = (batches ops).map List.length ∧
    -- no closed row group is empty, no batch is empty
    (∀ rg ∈ s.rgs.dropLast, rg.numRows ≠ 0) ∧ (∀ b ∈ batches ops, b ≠ []) ∧
    -- the open row group has no rows and no chunks
    s.rgs.getLast? = some (emptyRG cols.length) ∧
    -- pending records
    s.pages = chainOf max cols.length (pendingOf ops) ∧
    s.rowGroupDocs = (pendingOf ops).length ∧
    (s.pages.map (·.len)).sum = (pendingOf ops).length ∧
    s.docs = addCount ops ∧
    -- the footer: num_rows (field 3) counts exactly the rows of the batches
    footerT s = (schemaElems cols).map fun se =>
      TVal.struct [(1, .int 5 1), (2, .list 12 (se.map SElem.toT)),
                   (3, .int 6 (((batches ops).map List.length).sum : Nat)),
                   (4, .list 12 (rowGroupsT cols codec.id s.rgs 4))] := by
  intro s
  have hs : s = stateOf cols max codec (pendingOf ops) (batches ops) (addCount ops) :=
    state_is_stateOf hmax cols hcols codec ops
  have hne : ∀ b ∈ batches ops, b ≠ [] := batches_ne_nil ops
  clear_value s
  subst hs
  have hdl : (stateOf cols max codec (pendingOf ops) (batches ops) (addCount ops)).rgs.dropLast =
      (batches ops).map (batchRG cols max codec) := List.dropLast_concat
  have hfil := filter_done_rgs cols max codec _ hne
  refine ⟨hdl, ?_, ?_, ?_, hne, List.getLast?_concat, rfl, rfl, chainOf_lens_sum hmax _ _, rfl, ?_⟩
  · rw [hdl, hfil, List.map_map]; rfl
  · rw [hdl, List.map_map]; rfl
  · rw [hdl]
    exact List.forall_mem_map.mpr fun b hb => by simpa [batchRG_numRows] using hne b hb
  · have hall : (stateOf cols max codec (pendingOf ops) (batches ops) (addCount ops)).rgs.filter (·.numRows ≠ 0) =
        (batches ops).map (batchRG cols max codec) :=
      (List.filter_append ..).trans (by rw [hfil]; exact List.append_nil _)
    rw [footerT_eq, hall, List.map_map]
    rfl

/-! ## The shape of the sink calls -/

/-- Per call, for ANY state: `Add` writes nothing; `Write()` with `k` pages in the chain and `n`
columns performs exactly `2 * k * n` sink writes (none when nothing is pending); `Close` performs
exactly three — the footer, `le32` of its length, the magic — or panics (`none`) exactly where
`schema()` does; the constructor writes the magic. -/
theorem sink_calls_shape (s : WState) :
    (∀ r, s.step (.add r) = some (s.add r, [])) ∧
    (s.step .write = some s.write) ∧
    s.write.2.length = (if (s.pages.head?.map (·.len)).getD 0 = 0 then 0 else 2 * s.pages.length * s.cols.length) ∧
    s.close = (footerT s).map (fun t => [t.enc, le32 t.enc.length, par1]) ∧
    (∀ ws, s.step .close = some (s, ws) → ws.length = 3) ∧
    (∀ cols max codec ops, ∃ rest, runWriter cols max codec ops = some [par1] :: rest) := by
  refine ⟨fun _ => rfl, rfl, ?_, ?_, ?_, fun _ _ _ _ => ⟨_, rfl⟩⟩
  · by_cases h : (s.pages.head?.map (·.len)).getD 0 = 0
    · rw [if_pos h, write_empty s h]; rfl
    · rw [if_neg h, write_nonempty s h]; exact writeOut_length s
  · exact close_eq s
  · intro ws
    rw [WState.step, close_eq]
    cases footerT s with
    | none => intro h; cases h
    | some t => intro h; cases h; rfl

/-- History form: for a `Close`-free `body`, the calls of `body ++ [close]` are: the constructor's
magic, then per call `0` writes for an `Add` and `2 * (number of pages) * (number of columns)` for a
`Write` (`countsAux`; pages = `chunksOf max pending`, `0` when nothing is pending), then `Close`'s
three writes (`none` if `schema()` panics). -/
theorem sink_calls_history {max : Nat} (hmax : 1 ≤ max) (cols : List Col) (hcols : cols ≠ [])
    (codec : Codec) (body : List Op) (hbody : ∀ op ∈ body, op.isClose = false) :
    ∃ outs : List (List Bytes),
      outs.map List.length = countsAux max cols.length [] body ∧
      outs.length = body.length ∧
      runWriter cols max codec (body ++ [.close]) =
        some [par1] :: outs.map some ++
          [(footerT ((WState.init cols max codec).exec body)).map fun t => [t.enc, le32 t.enc.length, par1]] := by
  refine ⟨(WState.init cols max codec).outs body, (run_stateOf hmax cols hcols codec body [] [] 0).2.1, outs_length _ _, ?_⟩
  unfold runWriter
  rw [runOps_append _ body _ hbody, runOps_close, close_eq]
  rfl

/-! ## Records pending at `Close` are dropped -/

/-- The footer depends only on the columns, the codec id and the row groups; `Add`s change none of
them and write nothing.  Hence `Close` after any number of trailing `Add`s writes exactly what it
would have written without them, and the file is byte-identical. -/
theorem pending_at_close_dropped (s : WState) (adds : List Op) (hadds : ∀ op ∈ adds, op.isAdd = true) :
    (∀ s' : WState, s.cols = s'.cols → s.codec.id = s'.codec.id → s.rgs = s'.rgs → footerT s = footerT s') ∧
    (s.exec adds).rgs = s.rgs ∧
    footerT (s.exec adds) = footerT s ∧
    (s.exec adds).close = s.close ∧
    runOps s (adds ++ [.close]) = List.replicate adds.length (some []) ++ runOps s [.close] ∧
    fileBytes (runOps s (adds ++ [.close])) = fileBytes (runOps s [.close]) := by
  have ⟨hc, hk, hr, ho⟩ := exec_adds s adds hadds
  have hfoot : footerT (s.exec adds) = footerT s := footerT_congr _ _ hc (by rw [hk]) hr
  have hclose : (s.exec adds).close = s.close := by rw [close_eq, close_eq, hfoot]
  have hrun : runOps s (adds ++ [.close]) = List.replicate adds.length (some []) ++ runOps s [.close] := by
    rw [runOps_append s adds _ fun op h => op.isClose_of_isAdd (hadds op h), ho, List.map_replicate, runOps_close,
      runOps_close, hclose]
  refine ⟨footerT_congr s, hr, hfoot, hclose, hrun, ?_⟩
  rw [hrun, fileBytes_append, fileBytes_replicate_nil]
  rfl

/-- Whole-history form: trailing `Add`s before `Close` do not change the file. -/
theorem pending_at_close_dropped_file (cols : List Col) (max : Nat) (codec : Codec)
    (body adds : List Op) (hbody : ∀ op ∈ body, op.isClose = false) (hadds : ∀ op ∈ adds, op.isAdd = true) :
    fileBytes (runWriter cols max codec (body ++ adds ++ [.close])) =
      fileBytes (runWriter cols max codec (body ++ [.close])) ∧
    batches (body ++ adds ++ [.close]) = batches (body ++ [.close]) := by
  constructor
  · unfold runWriter
    rw [List.append_assoc, runOps_append _ body _ hbody, runOps_append _ body _ hbody]
    rw [fileBytes_cons, fileBytes_cons, fileBytes_append, fileBytes_append,
      (pending_at_close_dropped _ adds hadds).2.2.2.2.2]
  · simp only [batches, batchesAux_append, batchesAux_adds adds hadds, batchesAux, List.append_nil]

/-! ## The offsets in the footer are truthful -/

/-- The whole file as a function of `batches body`.  With
`items j = batchItems cols max codec (batch j)` = per column `(column, chunk totals, chunk bytes)`,
where the chunk bytes are header ‖ payload of every page of that column along the chain
(`chunkBytes`), and `fileLocs items 4` = these chunks laid out back to back from offset 4 in
(row group, column) order:

* the file is `PAR1 ‖ all chunk bytes in that order ‖ footer ‖ le32 |footer| ‖ PAR1`;
* the footer's row-group list is `rgTs`, i.e. chunk `(j, i)` is recorded by `chunkT` with
  `file_offset = data_page_offset =` its `fileLocs` offset
  `= 4 + (bytes of all chunks before it)`, `total_byte_size` = the row group's bytes, `num_rows` =
  the batch length;
* for every located chunk `x`: `total_compressed_size = |x.bytes|` and the file really holds
  `x.bytes` at `x.offset`;
* the located chunks tile the data region, so the footer starts exactly where the last chunk ends:
  at `4 + Σ chunk sizes`. -/
theorem offsets_truthful {max : Nat} (hmax : 1 ≤ max) (cols : List Col) (hcols : cols ≠ [])
    (codec : Codec) (body : List Op) (hbody : ∀ op ∈ body, op.isClose = false)
    (se : List SElem) (hse : schemaElems cols = some se) :
    let bs := batches body
    let items := bs.map (batchItems cols max codec)
    let locs := fileLocs items 4
    let data := items.flatMap itemsBytes
    let rgs := rgTs codec.id (bs.map fun b => (b.length, batchItems cols max codec b)) 4
    let footer := TVal.struct [(1, .int 5 1), (2, .list 12 (se.map SElem.toT)),
                               (3, .int 6 ((bs.map List.length).sum : Nat)), (4, .list 12 rgs)]
    let file := fileBytes (runWriter cols max codec (body ++ [.close]))
    rowGroupsT cols codec.id ((WState.init cols max codec).exec body).rgs 4 = rgs ∧
    footerT ((WState.init cols max codec).exec body) = some footer ∧
    file = par1 ++ data ++ (footer.enc ++ le32 footer.enc.length ++ par1) ∧
    (∀ L ∈ locs, ∀ x ∈ L,
        x.chunk.totalCompressed = x.bytes.length ∧
        (file.drop x.offset).take x.bytes.length = x.bytes) ∧
    locs.flatten.flatMap (·.bytes) = data ∧
    (par1 ++ data).length = 4 + (locs.flatten.map (·.chunk.totalCompressed)).sum := by
  intro bs items locs data rgs footer file
  have hrg : rowGroupsT cols codec.id ((WState.init cols max codec).exec body).rgs 4 = rgs := by
    rw [state_is_stateOf hmax cols hcols]
    exact rowGroupsT_done cols max codec bs 4 (batches_ne_nil body)
  have hfoot : footerT ((WState.init cols max codec).exec body) = some footer := by
    rw [(rowgroups_refine_batches hmax cols hcols codec body).2.2.2.2.2.2.2.2.2.2, hse, Option.map_some, hrg]
  have hfile : file = par1 ++ data ++ (footer.enc ++ le32 footer.enc.length ++ par1) := by
    simp only [file, data, items, runWriter]
    rw [runOps_append _ body _ hbody, fileBytes_cons, fileBytes_append, runOps_close, close_eq, hfoot,
      init_eq_stateOf, (run_stateOf hmax cols hcols codec body [] [] 0).2.2, List.flatMap_map]
    simp [fileBytes, bs, batches]
  have hloc : ∀ L ∈ locs, ∀ x ∈ L, x ∈ locsFrom items.flatten 4 := fun L hL x hx =>
    fileLocs_flatten items 4 ▸ List.mem_flatten.mpr ⟨L, hL, hx⟩
  have hsz : ∀ x ∈ locsFrom items.flatten 4, x.chunk.totalCompressed = x.bytes.length := by
    refine locsFrom_sizes _ 4 fun it hit => ?_
    obtain ⟨its, hits, h⟩ := List.mem_flatten.mp hit
    obtain ⟨b, _, rfl⟩ := List.mem_map.mp hits
    exact batchItems_sizes cols max codec b it h
  have hbytes : locs.flatten.flatMap (·.bytes) = data := by
    rw [fileLocs_flatten, locsFrom_bytes, itemsBytes_flatten]
  refine ⟨hrg, hfoot, hfile, ?_, hbytes, ?_⟩
  · intro L hL x hx
    refine ⟨hsz x (hloc L hL x hx), ?_⟩
    have := locsFrom_slice _ par1 (footer.enc ++ le32 footer.enc.length ++ par1) x (hloc L hL x hx)
    rwa [itemsBytes_flatten, ← hfile] at this
  · rw [List.length_append, ← hbytes, List.length_flatMap, fileLocs_flatten]
    congr 2
    exact List.map_congr_left fun x hx => (hsz x hx).symm

/-- Contiguity made explicit: listing the chunks in (row group, column) order, the `k`-th chunk's
recorded offset is `4 +` the total size of the chunks before it. -/
theorem offsets_contiguous (cols : List Col) (max : Nat) (codec : Codec) (body : List Op) :
    let xs := (fileLocs ((batches body).map (batchItems cols max codec)) 4).flatten
    ∀ (k : Nat) (h : k < xs.length), xs[k].offset = 4 + ((xs.take k).map (·.bytes.length)).sum := by
  intro xs k h
  have e : xs = locsFrom _ 4 := fileLocs_flatten _ 4
  clear_value xs
  subst e
  exact locsFrom_offset _ 4 k h

/-! ## Non-vacuity: two columns, `max = 2`, history add, add, add, write, write, add, close -/

section examples

private def exCols : List Col :=
  [{ path := ["a"], reps := [.req], ty := .i32 }, { path := ["b"], reps := [.opt], ty := .i32 }]
private def exCodec : Codec := { id := 0, compress := id }
private def exRec (k : Nat) : Rec :=
  [[{ rep := 0, dl := 0, val := some [k, 0, 0, 0] }], [{ rep := 0, dl := 0, val := none }]]
private def exOps : List Op :=
  [.add (exRec 1), .add (exRec 2), .add (exRec 3), .write, .write, .add (exRec 4), .close]
private def exBody : List Op := exOps.dropLast

example : exCols ≠ [] := by decide
example : ∀ op ∈ exBody, op.isClose = false := by decide
example : ∀ r ∈ [exRec 1, exRec 2, exRec 3], r.length = exCols.length := by decide
/-- one batch of three records; the fourth record is pending at `Close` -/
example : batches exOps = [[exRec 1, exRec 2, exRec 3]] := by decide
example : pendingOf exOps = [exRec 4] := by decide
example : pendingOf (exOps.take 4) = [] := by decide   -- the second `Write` finds nothing pending
/-- three records with `max = 2` make a chain of two pages, `[2, 1]` -/
example : chunksOf 2 [exRec 1, exRec 2, exRec 3] = [[exRec 1, exRec 2], [exRec 3]] := by decide
example : ([exRec 1, exRec 2, exRec 3].foldl (addToChain 2 2) [emptyPage 2]).map (·.len) = [2, 1] := by decide
example : ([exRec 1, exRec 2, exRec 3].foldl (addToChain 2 2) [emptyPage 2]).flatMap (·.cols.getD 0 []) =
    [⟨0, 0, some [1, 0, 0, 0]⟩, ⟨0, 0, some [2, 0, 0, 0]⟩, ⟨0, 0, some [3, 0, 0, 0]⟩] := by decide
/-- the model's state: one closed row group with 3 rows, the open one with 0, one record pending -/
example : (((WState.init exCols 2 exCodec).exec exOps).rgs.map (·.numRows),
           ((WState.init exCols 2 exCodec).exec exOps).rowGroupDocs,
           ((WState.init exCols 2 exCodec).exec exOps).pages.map (·.len),
           ((WState.init exCols 2 exCodec).exec exOps).docs) = ([3, 0], 1, [1], 4) := by decide
/-- sink writes per call: constructor 1, adds 0, first `Write` 2·2·2 = 8, empty `Write` 0, `Close` 3 -/
example : countsAux 2 exCols.length [] exBody = [0, 0, 0, 8, 0, 0] := by decide
example : (runWriter exCols 2 exCodec exOps).map (Option.map List.length) =
    [some 1, some 0, some 0, some 0, some 8, some 0, some 0, some 3] := by decide
/-- the layout has one row group with two chunks, the first at offset 4 -/
example : ((fileLocs ((batches exBody).map (batchItems exCols 2 exCodec)) 4).map
    (·.map (·.col.path))) = [[["a"], ["b"]]] := by decide
example : ((fileLocs ((batches exBody).map (batchItems exCols 2 exCodec)) 4).flatten.head?.map (·.offset)) = some 4 := by
  decide
example : (schemaElems exCols).isSome = true := by decide
/-- the layout: chunk `a` at offset 4, chunk `b` right after it (evaluated by the driver: 74 and 54
bytes, footer of 94 bytes at 132, file of 234 bytes; `uleb` is by well-founded recursion, so the
byte counts themselves are not `decide`-able) -/
example : ((fileLocs ((batches exBody).map (batchItems exCols 2 exCodec)) 4).flatten.map (·.offset)) =
    [4, 4 + (chunkBytes exCodec ⟨["a"], [.req], .i32⟩
              (colEntries (chainOf 2 2 [exRec 1, exRec 2, exRec 3]) 0)).length] := rfl
/-- the two inertness theorems applied: the empty `Write` and the pending `Add` can be dropped -/
example : fileBytes (runWriter exCols 2 exCodec exOps) =
    fileBytes (runWriter exCols 2 exCodec [.add (exRec 1), .add (exRec 2), .add (exRec 3), .write, .close]) := by
  have h1 := empty_write_inert_file (max := 2) (by decide) exCols (by decide) exCodec
    [.add (exRec 1), .add (exRec 2), .add (exRec 3), .write] [.add (exRec 4), .close] (by decide) (by decide)
  have h2 := (pending_at_close_dropped_file exCols 2 exCodec
    [.add (exRec 1), .add (exRec 2), .add (exRec 3), .write] [.add (exRec 4)] (by decide) (by decide)).1
  exact h1.trans h2
/-- `offsets_truthful` applied: the bytes of chunk `b` sit in the file at the recorded offset -/
example (se : List SElem) (hse : schemaElems exCols = some se) :
    let file := fileBytes (runWriter exCols 2 exCodec exOps)
    let a := chunkBytes exCodec ⟨["a"], [.req], .i32⟩ (colEntries (chainOf 2 2 [exRec 1, exRec 2, exRec 3]) 0)
    let b := chunkBytes exCodec ⟨["b"], [.opt], .i32⟩ (colEntries (chainOf 2 2 [exRec 1, exRec 2, exRec 3]) 1)
    (file.drop (4 + a.length)).take b.length = b := by
  intro file a b
  have h := (offsets_truthful (max := 2) (by decide) exCols (by decide) exCodec exBody (by decide) se hse).2.2.2.1
  exact (h _ List.mem_cons_self ⟨⟨["b"], [.opt], .i32⟩, _, 4 + a.length, b⟩
    (List.mem_cons_of_mem _ List.mem_cons_self)).2

end examples

end PQ.C06
