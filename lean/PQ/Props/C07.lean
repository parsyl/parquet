import PQ.Lemmas.RleImpl
import PQ.Lemmas.WriteBuffer
/-!
# C07 — level streams are valid hybrid RLE; encode and decode are inverses

The property theorems and their non-vacuity examples; the lemmas behind them are in
`PQ/Lemmas/{BitpackNat,RleEnc,RleDec,RleImpl,WriteBuffer}.lean`.

* `Enc`/`encode`/`implDecode` mirror `internal/rle/rle.go`; `pack`/`unpack` wrap the regenerated
  tables of `internal/bitpack`; the thresholds 8 / 63 / 8 come from `PQ.Gen.Facts`.
* `Run`, `serRuns` (ULEB128 headers, arithmetic `packSpec`), `Run.WF`, `specDecode` are the
  specification side.
-/
namespace PQ.C07
open PQ

/-- **Encoder, structural half (no hypotheses, every width, every input).**  The encoder's output
is a length prefix followed by a run list in the encoder's own serialisation (`Run.serEnc`: Go's
`leb128`, `valBytes`, the table `pack`, a one-byte bit-packed header); RLE runs have at least 8
repetitions, bit-packed runs 1..63 groups of exactly 8 values; the runs' values are the input followed
by fewer than 8 zeros of padding. -/
theorem encode_struct (w : Nat) (xs : List Nat) :
    ∃ runs pad, encode w xs = le32 (serRunsEnc w runs).length ++ serRunsEnc w runs
      ∧ (∀ r ∈ runs, r.WFs) ∧ runsVals runs = xs ++ List.replicate pad 0 ∧ pad < 8 :=
  PQ.encode_struct w xs

/-- **Encoder emits a valid hybrid RLE stream.**  Against the *specification* serialisation
(`serRuns`: ULEB128 headers, `⌈w/8⌉` value bytes, LSB-first little-endian bit packing).
`hx` is needed because `Run.WF`/`Run.WFenc` bound the values; `hlen` keeps RLE headers inside the
32-bit loop test of Go's `leb128` (beyond it `leb128 ≠ uleb`). -/
theorem encode_wf (w : Nat) (xs : List Nat) (hw : 1 ≤ w ∧ w ≤ 4)
    (hx : ∀ x ∈ xs, x < 2 ^ w) (hlen : xs.length + 8 ≤ 2 ^ 30) :
    ∃ runs pad, encode w xs = le32 (serRuns w runs).length ++ serRuns w runs
      ∧ (∀ r ∈ runs, r.WFenc w) ∧ (∀ r ∈ runs, r.WF w)
      ∧ runsVals runs = xs ++ List.replicate pad 0 ∧ pad < 8 := by
  obtain ⟨runs, pad, henc, hs, hb, hv, hp⟩ := PQ.encode_runs w hw xs hx hlen
  exact ⟨runs, pad, henc, fun r hr => wfenc_of w r (hs r hr) (hb r hr),
    fun r hr => wf_of w r (hs r hr) (hb r hr), hv, hp⟩

/-- **The specification decoder inverts the encoder** and consumes exactly the encoder's bytes. -/
theorem spec_decode_encode (w : Nat) (hw : 1 ≤ w ∧ w ≤ 4) (xs : List Nat)
    (hx : ∀ x ∈ xs, x < 2 ^ w) (hlen : xs.length + 8 ≤ 2 ^ 30) :
    ∃ pad, pad < 8 ∧
      specDecode w (encode w xs) = some (xs ++ List.replicate pad 0, (encode w xs).length) :=
  PQ.spec_decode_encode w hw xs hx hlen

/-- the specification decoder accepts every well-formed stream (every width, any run mix) -/
theorem spec_decode_wf (w : Nat) (runs : List Run) (hwf : ∀ r ∈ runs, r.WF w)
    (hsz : (serRuns w runs).length < 2 ^ 32) (rest : Bytes) :
    specDecode w (le32 (serRuns w runs).length ++ (serRuns w runs ++ rest))
      = some (runsVals runs, 4 + (serRuns w runs).length) :=
  PQ.specDecode_ser w runs hwf hsz rest

/-- **The library decoder (`RLE.Read`) accepts every well-formed stream**: any mix of run kinds and
lengths, bit-packed runs with more than 63 groups and multi-byte ULEB128 headers, RLE runs of any count
below 2^63 (`hcnt`: the header `count << 1` must fit `readLEB128`'s `uint64` accumulator, whose
shifts silently drop higher bits), and returns the runs' values and exactly the stream's size.
`hsz` is the `int32` length prefix (a negative length panics in `make`). -/
theorem impl_decode_wf (w : Nat) (hw : 1 ≤ w ∧ w ≤ 4) (runs : List Run) (hwf : ∀ r ∈ runs, r.WF w)
    (hcnt : ∀ c v, Run.rle c v ∈ runs → c < 2 ^ 63)
    (hsz : (serRuns w runs).length < 2 ^ 31) (rest : Bytes) :
    implDecode w (le32 (serRuns w runs).length ++ serRuns w runs ++ rest)
      = .ok (runsVals runs, 4 + (serRuns w runs).length) :=
  PQ.implDecode_ser w hw runs hwf hcnt hsz rest

/-- **The library decoder inverts the library encoder**, whatever follows the level section. -/
theorem impl_decode_encode (w : Nat) (hw : 1 ≤ w ∧ w ≤ 4) (xs : List Nat)
    (hx : ∀ x ∈ xs, x < 2 ^ w) (hlen : xs.length + 8 ≤ 2 ^ 30) (rest : Bytes) :
    ∃ pad, pad < 8 ∧
      implDecode w (encode w xs ++ rest) = .ok (xs ++ List.replicate pad 0, (encode w xs).length) :=
  PQ.impl_decode_encode w hw xs hx hlen rest

/-- the generated bit-packing tables are the specification layout -/
theorem pack_is_spec (w : Nat) (hw : 1 ≤ w ∧ w ≤ 4) (g : List Nat) (hl : g.length = 8) :
    pack w g = packSpec w g := PQ.pack_eq_packSpec' w hw g hl

/-- Go's `leb128` (loop test on the low 32 bits) is ULEB128 below 2^32 -/
theorem leb128_is_uleb (n : Nat) (hn : n < 2 ^ 32) : leb128 n = uleb n := PQ.leb128_eq_uleb n hn

/-- **`writeBuffer.writeAt` is "overwrite or extend at `off`"** for `off ≤ size()` (the encoder only
appends at `size()` or back-patches one header byte below it), preserves `i ≤ len(d)`, and moves
`size()` to `max`. `Enc.out` with `++` / `List.set` is this abstraction (`write_appends`,
`backpatch_is_set`). -/
theorem writeBuffer_abs (wb : WriteBuffer) (dat : Bytes) (off : Nat) (hwf : wb.WF) (hoff : off ≤ wb.i) :
    (wb.writeAt dat off).bytes = WriteBuffer.overwrite wb.bytes dat off ∧ (wb.writeAt dat off).WF
      ∧ (wb.writeAt dat off).size = max wb.size (off + dat.length) :=
  WriteBuffer.writeAt_abs wb dat off hwf hoff

theorem write_appends (wb : WriteBuffer) (dat : Bytes) (hwf : wb.WF) :
    (wb.write dat).bytes = wb.bytes ++ dat ∧ (wb.write dat).WF
      ∧ (wb.write dat).size = wb.size + dat.length := by
  obtain ⟨h1, h2, h3⟩ := WriteBuffer.writeAt_abs wb dat wb.i hwf (Nat.le_refl _)
  have hl := WriteBuffer.bytes_length hwf
  refine ⟨?_, h2, h3.trans (Nat.max_eq_right (Nat.le_add_right _ _))⟩
  rw [WriteBuffer.write, h1, WriteBuffer.overwrite, List.take_of_length_le (Nat.le_of_eq hl),
    List.drop_eq_nil_of_le (hl ▸ Nat.le_add_right _ _), List.append_nil]

theorem backpatch_is_set (wb : WriteBuffer) (b p : Nat) (hwf : wb.WF) (hp : p < wb.i) :
    (wb.writeAt [b] p).bytes = wb.bytes.set p b ∧ (wb.writeAt [b] p).WF
      ∧ (wb.writeAt [b] p).size = wb.size := by
  obtain ⟨h1, h2, h3⟩ := WriteBuffer.writeAt_abs wb [b] p hwf (Nat.le_of_lt hp)
  refine ⟨?_, h2, h3.trans (Nat.max_eq_left hp)⟩
  rw [h1, WriteBuffer.overwrite, List.set_eq_take_append_cons_drop, if_pos (WriteBuffer.bytes_length hwf ▸ hp),
    List.append_assoc]
  rfl

/-- the back-patched position is always inside the buffer in reachable encoder states -/
theorem header_in_bounds (w : Nat) (xs : List Nat) (p : Nat)
    (hp : (xs.foldl Enc.write { w := w }).headerPointer = some p) :
    p < (xs.foldl Enc.write { w := w }).out.length := by
  obtain ⟨a, hinv, _⟩ := foldl_inv w xs
  exact shape_header_lt _ a hinv.shape p hp

/-! ## non-vacuity -/
section NonVacuity
open PQ.Gen

/-- 20 levels of width 2: a bit-packed group, an RLE run of 10, a padded bit-packed group -/
def xs20 : List Nat := [1, 2, 3, 0, 1, 2, 3, 0] ++ List.replicate 10 3 ++ [1, 2]

theorem xs20_hyps : (1 ≤ 2 ∧ 2 ≤ 4) ∧ (∀ x ∈ xs20, x < 2 ^ 2) ∧ xs20.length + 8 ≤ 2 ^ 30 := by decide

/-- what the encoder emits for `xs20` (evaluated): length 8; packed header 3, two bytes; RLE header
20 = 10<<1, value 3; packed header 3, two bytes (values 1,2 and six zeros of padding) -/
example : encode 2 xs20 = [8, 0, 0, 0, 3, 0x39, 0x39, 20, 3, 3, 0x09, 0] := by decide +kernel

example : ∃ pad, pad < 8 ∧
    specDecode 2 (encode 2 xs20) = some (xs20 ++ List.replicate pad 0, (encode 2 xs20).length) :=
  spec_decode_encode 2 xs20_hyps.1 xs20 xs20_hyps.2.1 xs20_hyps.2.2

example : ∃ pad, pad < 8 ∧
    implDecode 2 (encode 2 xs20 ++ [7, 7]) = .ok (xs20 ++ List.replicate pad 0, (encode 2 xs20).length) :=
  impl_decode_encode 2 xs20_hyps.1 xs20 xs20_hyps.2.1 xs20_hyps.2.2 [7, 7]

/-- a foreign stream: 70 groups (two-byte header `8d 01`), a short RLE run (count 3 < 8), a long one
(three-byte header), a single group -/
def runsEx : List Run :=
  [.packed (List.replicate 70 [0, 1, 2, 3, 3, 2, 1, 0]), .rle 3 1, .rle 100000 2, .packed [[1, 1, 1, 1, 1, 1, 1, 1]]]

theorem runsEx_wf : ∀ r ∈ runsEx, r.WF 2 := by
  intro r hr
  simp only [runsEx, List.mem_cons, List.not_mem_nil, or_false] at hr
  rcases hr with rfl | rfl | rfl | rfl
  · refine ⟨by simp, ?_⟩
    intro g hg
    rw [(List.mem_replicate.mp hg).2]
    decide
  · exact ⟨by omega, by omega⟩
  · exact ⟨by omega, by omega⟩
  · exact ⟨by simp, by decide⟩

theorem runsEx_cnt : ∀ c v, Run.rle c v ∈ runsEx → c < 2 ^ 63 := by
  intro c v hr
  simp only [runsEx, List.mem_cons, List.not_mem_nil, or_false] at hr
  rcases hr with h | h | h | h
  · cases h
  · cases h; omega
  · cases h; omega
  · cases h

theorem runsEx_size : (serRuns 2 runsEx).length = 151 := by
  have h141 : uleb 141 = [141, 1] := by rw [uleb, dif_pos (by decide), uleb_small _ (by decide)]
  have h2 : uleb 200000 = [192, 154, 12] := by
    rw [uleb, dif_pos (by decide), uleb, dif_pos (by decide), uleb_small _ (by decide)]
  rw [runsEx, serRuns_cons, serRuns_cons, serRuns_cons, serRuns_cons, Run.ser, Run.ser, Run.ser, Run.ser]
  simp only [List.length_append, flatMap_packSpec_length, List.length_replicate, leBytes_length, h141, h2,
    uleb_small 6 (by decide), show uleb ([[1, 1, 1, 1, 1, 1, 1, 1]].length * 2 + 1) = [3] from uleb_small 3 (by decide)]
  rfl

example : implDecode 2 (le32 (serRuns 2 runsEx).length ++ serRuns 2 runsEx ++ [9])
    = .ok (runsVals runsEx, 4 + (serRuns 2 runsEx).length) :=
  impl_decode_wf 2 (by omega) runsEx runsEx_wf runsEx_cnt (by rw [runsEx_size]; decide) [9]

/-- the guard `hlen` is needed in kind: at 2^32 Go's `leb128` and ULEB128 part ways (an RLE run of
2^31 equal levels would get the header byte `00`) -/
example : leb128 (2 ^ 32) = [0] ∧ uleb (2 ^ 32) = [128, 128, 128, 128, 16] := by
  refine ⟨by rw [leb128]; simp, ?_⟩
  rw [uleb]; simp; rw [uleb]; simp; rw [uleb]; simp; rw [uleb]; simp; rw [uleb]; simp

/-- `writeBuffer`: all three branches are exercised from a fresh 2-byte buffer -/
example : ((((WriteBuffer.new 2).write [1]).write [2, 3]).writeAt [9] 0).bytes = [9, 2, 3] := by decide
example : (WriteBuffer.new 2).WF ∧ 0 ≤ (WriteBuffer.new 2).i := ⟨WriteBuffer.new_wf 2, Nat.zero_le _⟩

end NonVacuity

end PQ.C07
