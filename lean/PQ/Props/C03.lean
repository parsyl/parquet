import PQ.Lemmas.Dremel
/-!
# C03 — Dremel striping of one column is lossless, level-bounded and record-delimited

The statements about `stripe`/`parse` with arbitrary accumulators `r d k` are proved in
`PQ/Lemmas/Dremel.lean` by induction on the path; the record-level statements here are their
instances at `0 0 0`.

`ts : List Rep` is the list of repetition types on the path from the record root to the column's
leaf (outermost first), `Proj α ts` the projection of a record on that column, `stripeTop` the
reference striping (Dremel paper §4.1 / Parquet spec) and `assembleTop` the reference assembly.
Every theorem quantifies over **all** `ts`, all leaf types `α` and all values: nesting depth and
list lengths are unbounded.
-/
namespace PQ.C03
open PQ

variable {α : Type}

/-- **General form.**  Parsing the striping of `v` (emitted with any first repetition level `r`,
below `d` defined and `k` repeated ancestors), followed by any stream that does not continue a
list deeper than `k`, gives back `v` and leaves exactly that stream. -/
theorem parse_stripe (ts : List Rep) (r d k : Nat) (v : Proj α ts) (rest : List (Entry α))
    (h : ∀ e, rest.head? = some e → e.rep ≤ k) :
    parse ts d k (stripe ts r d k v ++ rest) = some (v, rest) :=
  PQ.parse_stripe ts r d k v rest h

/-- **Record form.**  Assembling a record's striping followed by nothing or by the start of another
record gives back the record's column value and the untouched remainder. -/
theorem assemble_stripe (ts : List Rep) (v : Proj α ts) (rest : List (Entry α))
    (h : rest = [] ∨ ∃ e tl, rest = e :: tl ∧ e.rep = 0) :
    assembleTop ts (stripeTop ts v ++ rest) = some (v, rest) :=
  PQ.parse_stripe ts 0 0 0 v rest ((PQ.Stops_zero_iff rest).2 h)

theorem assemble_stripe_nil (ts : List Rep) (v : Proj α ts) :
    assembleTop ts (stripeTop ts v) = some (v, []) := by
  have := assemble_stripe ts v [] (Or.inl rfl)
  rwa [List.append_nil] at this

/-- general form: definition levels in `[d, d + maxDef ts]`, a value exactly at the top definition
level, repetition levels `r` (first entry) or at most `k + maxRep ts` -/
theorem levels_bounded_gen (ts : List Rep) (r d k : Nat) (v : Proj α ts) :
    ∀ e ∈ stripe ts r d k v,
      d ≤ e.dl ∧ e.dl ≤ d + maxDef ts ∧ e.rep ≤ max r (k + maxRep ts) ∧
        (e.val.isSome ↔ e.dl = d + maxDef ts) := by
  obtain ⟨⟨e, tl, h1, h2, h3⟩, h4⟩ := PQ.stripe_spec ts r d k v
  intro x hx
  refine ⟨(h4 x hx).1, (h4 x hx).2.1, ?_, (h4 x hx).2.2⟩
  rcases List.mem_cons.1 (h1 ▸ hx) with rfl | hx
  · exact h2 ▸ Nat.le_max_left ..
  · exact Nat.le_trans (h3 x hx).2 (Nat.le_max_right ..)

theorem levels_bounded (ts : List Rep) (v : Proj α ts) :
    ∀ e ∈ stripeTop ts v,
      e.dl ≤ maxDef ts ∧ e.rep ≤ maxRep ts ∧ (e.val.isSome ↔ e.dl = maxDef ts) := by
  intro e he
  obtain ⟨_, b, c, d⟩ := levels_bounded_gen ts 0 0 0 v e he
  rw [Nat.zero_add] at b c d
  exact ⟨b, Nat.zero_max (maxRep ts) ▸ c, d⟩

/-- general form: below `k` repeated ancestors, every entry after the first has `rep > k` -/
theorem first_rep_gen (ts : List Rep) (r d k : Nat) (v : Proj α ts) :
    ∃ e tl, stripe ts r d k v = e :: tl ∧ e.rep = r ∧ d ≤ e.dl ∧
      ∀ x ∈ tl, k + 1 ≤ x.rep ∧ x.rep ≤ k + maxRep ts :=
  let ⟨⟨e, tl, h1, h2, h3⟩, h4⟩ := PQ.stripe_spec ts r d k v
  ⟨e, tl, h1, h2, (h4 e (h1 ▸ List.mem_cons_self)).1, h3⟩

/-- a record's striping is non-empty, starts with `rep = 0` and has no other `rep = 0` entry -/
theorem first_rep_zero (ts : List Rep) (v : Proj α ts) :
    ∃ e tl, stripeTop ts v = e :: tl ∧ e.rep = 0 ∧ ∀ x ∈ tl, 1 ≤ x.rep :=
  let ⟨e, tl, h1, h2, _, h4⟩ := first_rep_gen ts 0 0 0 v
  ⟨e, tl, h1, h2, fun x hx => Nat.zero_add 1 ▸ (h4 x hx).1⟩

theorem takeRecord_stripe (ts : List Rep) (v : Proj α ts) (rest : List (Entry α))
    (h : rest = [] ∨ ∃ e tl, rest = e :: tl ∧ e.rep = 0) :
    takeRecord (stripeTop ts v ++ rest) = (stripeTop ts v, rest) := by
  obtain ⟨e, tl, h1, _, h4⟩ := first_rep_zero ts v
  obtain ⟨t1, t2⟩ := PQ.takeWhile_dropWhile_append_stop (fun x : Entry α => x.rep != 0) tl rest
    (fun x hx => by have := h4 x hx; simp; omega)
    (h.imp id fun ⟨e, tl, h, h0⟩ => ⟨e, tl, h, by simp [h0]⟩)
  rw [h1]
  show (e :: (tl ++ rest).takeWhile _, (tl ++ rest).dropWhile _) = _
  rw [t1, t2]

/-- the concatenated stripings of `vs` split into exactly the individual stripings, given fuel at
least the number of records -/
theorem splitRecords_stripe (ts : List Rep) (vs : List (Proj α ts)) (fuel : Nat)
    (hf : vs.length ≤ fuel) :
    splitRecords fuel (vs.flatMap (stripeTop ts)) = vs.map (stripeTop ts) := by
  induction vs generalizing fuel with
  | nil => cases fuel <;> rfl
  | cons v vs ih =>
    cases fuel with
    | zero => exact absurd hf (Nat.not_succ_le_zero _)
    | succ f =>
      -- the rest of the stream is empty or starts the next record
      have hrest := PQ.Stops_flatMap (fun w => let ⟨e, tl, h1, h2, _⟩ := first_rep_zero ts w; ⟨e, tl, h1, h2⟩)
        vs (PQ.Stops_nil 0)
      rw [List.append_nil, PQ.Stops_zero_iff] at hrest
      rw [List.flatMap_cons, List.map_cons,
        PQ.splitRecords_succ f (List.append_ne_nil_of_left_ne_nil (show stripeTop ts v ≠ [] from PQ.stripe_ne_nil ts 0 0 0 v) _),
        takeRecord_stripe ts v _ hrest, ih f (Nat.le_of_succ_le_succ hf)]

/-- … and assembling each piece gives back each record (whole column chunk round trip) -/
theorem assemble_splitRecords (ts : List Rep) (vs : List (Proj α ts)) (fuel : Nat)
    (hf : vs.length ≤ fuel) :
    (splitRecords fuel (vs.flatMap (stripeTop ts))).map (assembleTop ts) =
      vs.map (fun v => some (v, [])) := by
  rw [splitRecords_stripe ts vs fuel hf, List.map_map]
  exact List.map_congr_left fun v _ => assemble_stripe_nil ts v

theorem stripe_injective (ts : List Rep) (v v' : Proj α ts)
    (h : stripeTop ts v = stripeTop ts v') : v = v' := by
  have a := assemble_stripe_nil ts v
  rw [h, assemble_stripe_nil ts v'] at a
  exact (Prod.mk.inj (Option.some.inj a)).1.symm

/-- the number of entries at the maximum definition level equals the number of values stored: this
is how a reader knows how many PLAIN values a page holds -/
theorem nonnull_count (ts : List Rep) (v : Proj α ts) :
    ((stripeTop ts v).filter (fun e => e.dl = maxDef ts)).length =
      ((stripeTop ts v).filter (fun e => e.val.isSome)).length := by
  congr 1
  refine List.filter_congr fun e he => ?_
  rw [Bool.eq_iff_iff, decide_eq_true_iff]
  exact (levels_bounded ts v e he).2.2.symm

theorem required_only (ts : List Rep) (hreq : ∀ t ∈ ts, t = Rep.req) (v : Proj α ts) :
    ∃ x : α, stripeTop ts v = [⟨0, 0, some x⟩] :=
  let ⟨x, h, _⟩ := PQ.stripe_required ts hreq 0 0 0 v; ⟨x, h⟩

theorem bitsLen_spec (n : Nat) : n < 2 ^ bitsLen n := PQ.lt_two_pow_bitsLen n

theorem bitsLen_min (n : Nat) (h : 0 < n) : 2 ^ (bitsLen n - 1) ≤ n := by
  unfold bitsLen
  rw [if_neg (Nat.ne_of_gt h), Nat.add_sub_cancel]
  exact Nat.log2_self_le (Nat.ne_of_gt h)

theorem bitsLen_least (n w : Nat) (h : n < 2 ^ w) : bitsLen n ≤ w :=
  PQ.bitsLen_le_of_lt_two_pow n w h

theorem maxDef_le_length (ts : List Rep) : maxDef ts ≤ ts.length := by
  induction ts with
  | nil => exact Nat.le_refl _
  | cons t ts ih => cases t <;> simp only [maxDef_req, maxDef_opt, maxDef_rpt, List.length_cons] <;> omega

theorem maxRep_le_maxDef (ts : List Rep) : maxRep ts ≤ maxDef ts := PQ.maxRep_le_maxDef ts

/-- every level of a striping fits in the bit width the writer derives from the schema -/
theorem levels_fit (ts : List Rep) (v : Proj α ts) :
    ∀ e ∈ stripeTop ts v, e.dl < 2 ^ bitsLen (maxDef ts) ∧ e.rep < 2 ^ bitsLen (maxRep ts) :=
  fun e he =>
    have h := levels_bounded ts v e he
    ⟨Nat.lt_of_le_of_lt h.1 (bitsLen_spec _), Nat.lt_of_le_of_lt h.2.1 (bitsLen_spec _)⟩

/-! The Dremel paper's example (Melnik et al., VLDB 2010, figures 2 and 3): `Name` is repeated,
`Name.Language` is repeated, `Language.Code` is required and `Language.Country` is optional.
Record `r1` has three `Name`s: the first with languages `(en-us, us)` and `(en, —)`, the second
with no language, the third with `(en-gb, gb)`.  Record `r2` has one `Name` without language. -/
section Examples

abbrev tsCode : List Rep := [.rpt, .rpt, .req]
abbrev tsCountry : List Rep := [.rpt, .rpt, .opt]

def r1Code : Proj String tsCode := ([["en-us", "en"], [], ["en-gb"]] : List (List String))
def r2Code : Proj String tsCode := ([[]] : List (List String))
def r1Country : Proj String tsCountry :=
  ([[some "us", none], [], [some "gb"]] : List (List (Option String)))
def r2Country : Proj String tsCountry := ([[]] : List (List (Option String)))

example : maxDef tsCode = 2 ∧ maxRep tsCode = 2 ∧ maxDef tsCountry = 3 ∧ maxRep tsCountry = 2 := by
  decide

/-- column `Name.Language.Code` of figure 3 -/
example : stripeTop tsCode r1Code =
    [⟨0, 2, some "en-us"⟩, ⟨2, 2, some "en"⟩, ⟨1, 1, none⟩, ⟨1, 2, some "en-gb"⟩] := by decide
example : stripeTop tsCode r2Code = [⟨0, 1, none⟩] := by decide

/-- column `Name.Language.Country` of figure 3 -/
example : stripeTop tsCountry r1Country =
    [⟨0, 3, some "us"⟩, ⟨2, 2, none⟩, ⟨1, 1, none⟩, ⟨1, 3, some "gb"⟩] := by decide
example : stripeTop tsCountry r2Country = [⟨0, 1, none⟩] := by decide

/-- assembly of the column chunk `r1 ++ r2`: record `r1` comes back, the stream of `r2` is left -/
example : assembleTop tsCountry
    [⟨0, 3, some "us"⟩, ⟨2, 2, none⟩, ⟨1, 1, none⟩, ⟨1, 3, some "gb"⟩, ⟨0, 1, none⟩] =
    some (r1Country, [⟨0, 1, none⟩]) := rfl
example : assembleTop tsCountry [⟨0, 1, none⟩] = some (r2Country, []) := rfl
example : assembleTop tsCode
    [⟨0, 2, some "en-us"⟩, ⟨2, 2, some "en"⟩, ⟨1, 1, none⟩, ⟨1, 2, some "en-gb"⟩, ⟨0, 1, none⟩] =
    some (r1Code, [⟨0, 1, none⟩]) := rfl

/-- the record splitter cuts the chunk at the `rep = 0` entries -/
example : splitRecords 2 (stripeTop tsCountry r1Country ++ stripeTop tsCountry r2Country) =
    [stripeTop tsCountry r1Country, stripeTop tsCountry r2Country] := by decide

/-- a deeper mix: repeated / optional / repeated, with an empty outer list, a null, an empty inner
list and non-empty inner lists -/
abbrev tsMix : List Rep := [.rpt, .opt, .rpt]
def mix : Proj Nat tsMix := ([some [1, 2], none, some [], some [3]] : List (Option (List Nat)))

example : stripeTop tsMix mix =
    [⟨0, 3, some 1⟩, ⟨2, 3, some 2⟩, ⟨1, 1, none⟩, ⟨1, 2, none⟩, ⟨1, 3, some 3⟩] := by decide
example : stripeTop tsMix ([] : List (Option (List Nat))) = [⟨0, 0, none⟩] := by decide
example : assembleTop tsMix
    [⟨0, 3, some 1⟩, ⟨2, 3, some 2⟩, ⟨1, 1, none⟩, ⟨1, 2, none⟩, ⟨1, 3, some 3⟩, ⟨0, 0, none⟩] =
    some (mix, [⟨0, 0, none⟩]) := rfl

/-- the hypothesis of `assemble_stripe` is needed: a remainder that continues the list (`rep = 1`)
is swallowed into the value -/
example : assembleTop tsMix (stripeTop tsMix mix ++ [⟨1, 1, none⟩]) =
    some ((([some [1, 2], none, some [], some [3], none] : List (Option (List Nat))) : Proj Nat tsMix),
      []) := rfl

/-- assembly rejects an entry at the maximum definition level without a value, a definition level
above the maximum, and an empty stream -/
example : assembleTop (α := Nat) tsMix [⟨0, 3, none⟩] = none := rfl
example : assembleTop (α := Nat) tsMix [⟨0, 4, some 7⟩] = none := rfl
example : assembleTop (α := Nat) tsMix [] = none := rfl

/-- a required-only path: one entry per record, levels 0 -/
example : stripeTop (α := Nat) [.req, .req] (5 : Nat) = [⟨0, 0, some 5⟩] := rfl

example : bitsLen 0 = 0 ∧ bitsLen 1 = 1 ∧ bitsLen 3 = 2 ∧ bitsLen 4 = 3 ∧ bitsLen 255 = 8 := by
  decide

end Examples

end PQ.C03
