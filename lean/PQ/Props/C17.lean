import PQ.Gen.BitpackFresh
import PQ.Model.Bitpack
import PQ.Lemmas.SimpAttr
/-!
# C17 — bit packing of 8-value groups is exactly invertible and spec-ordered

The definitions under `PQ.Gen.Bitpack` are *regenerated* from
`internal/bitpack/bitpack.go` on every run, and `PQ.Gen.BitpackFresh` from what
`cmd/bitpackgen` emits today, so these theorems are re-checked against the current
code.  Every theorem quantifies over **all** `BitVec 8` inputs: all 2^8+4^8+8^8+16^8
value groups (and the ones with out-of-range values, which are masked) and all
`w`-byte groups.  Proofs: bit extensionality + `simp`; kernel only.
-/
namespace PQ.C17
open PQ.Gen

abbrev B := BitVec 8

attribute [bitfield] List.getD_cons_succ List.getD_cons_zero BitVec.getLsbD_or BitVec.getLsbD_and
  BitVec.getLsbD_shiftLeft BitVec.getLsbD_ushiftRight decide_true decide_false Bool.not_true Bool.not_false
  Bool.and_true Bool.true_and Bool.and_false Bool.false_and Bool.or_false Bool.false_or and_self
attribute [bitfield_proc] Nat.reduceDiv Nat.reduceMod Nat.reduceLT Nat.reduceSub Nat.reduceAdd BitVec.reduceGetLsb

/-- bit `k` of a little-endian byte stream (LSB of byte 0 first) -/
def streamBit (bs : List B) (k : Nat) : Bool := (bs.getD (k / 8) 0).getLsbD (k % 8)

/-- the Parquet specification's layout: bit `k` of the stream is bit `k % w` of value `k / w` -/
def specBit (w : Nat) (vs : List B) (k : Nat) : Bool := (vs.getD (k / w) 0).getLsbD (k % w)

/-- `bs` is the specification's layout of the eight `w`-bit values `vs` -/
def Layout (w : Nat) (bs vs : List B) : Prop := ∀ k, k < 8 * w → streamBit bs k = specBit w vs k

theorem Layout.bit {w : Nat} {bs vs : List B} (h : Layout w bs vs) {i j : Nat} (hi : i < 8) (hj : j < w) :
    (vs.getD i 0).getLsbD j = streamBit bs (i * w + j) := by
  have hk : i * w + j < 8 * w := by
    have : (i + 1) * w ≤ 8 * w := Nat.mul_le_mul_right w hi
    rw [Nat.add_mul] at this; omega
  rw [h _ hk, specBit, Nat.mul_comm, Nat.mul_add_div (by omega), Nat.mul_add_mod, Nat.div_eq_of_lt hj,
    Nat.mod_eq_of_lt hj, Nat.add_zero]

/-- a stream is determined by its bits -/
theorem stream_ext {bs bs' : List B} (hl : bs.length = bs'.length)
    (h : ∀ k, k < 8 * bs.length → streamBit bs k = streamBit bs' k) : bs = bs' := by
  apply List.ext_getElem hl
  intro i hi _
  apply BitVec.eq_of_getLsbD_eq
  intro j hj
  have := h (8 * i + j) (by omega)
  rwa [streamBit, streamBit, Nat.mul_add_div (by omega), Nat.mul_add_mod, Nat.div_eq_of_lt hj, Nat.mod_eq_of_lt hj,
    Nat.add_zero, ← List.getElem_eq_getD, ← List.getElem_eq_getD] at this

/-- packing what was unpacked: two streams that lay out the same values are the same stream -/
theorem Layout.stream_eq {w : Nat} {bs bs' vs : List B} (h : Layout w bs vs) (h' : Layout w bs' vs)
    (hl : bs.length = w) (hl' : bs'.length = w) : bs' = bs :=
  stream_ext (hl'.trans hl.symm) fun k hk => by rw [hl'] at hk; rw [h' k hk, h k hk]

def mask (w : Nat) : B := BitVec.ofNat 8 (2 ^ w - 1)

theorem mask_bit (w j : Nat) (hj : j < 8) : (mask w).getLsbD j = decide (j < w) := by
  rw [mask, BitVec.getLsbD_ofNat, Nat.testBit_two_pow_sub_one, decide_eq_true hj, Bool.true_and]

/-- unpacking what was packed: two groups laid out as the same stream agree on their low `w` bits -/
theorem Layout.values_eq {w : Nat} {bs xs vs : List B} (hx : Layout w bs xs) (hv : Layout w bs vs)
    (lx : xs.length = 8) (lv : vs.length = 8) (hlt : ∀ v ∈ vs, v &&& mask w = v) :
    vs = xs.map (· &&& mask w) := by
  apply List.ext_getElem (by rw [List.length_map, lx, lv])
  intro i h₁ _
  rw [List.getElem_map, ← hlt _ (List.getElem_mem h₁)]
  apply BitVec.eq_of_getLsbD_eq
  intro j hj
  rw [BitVec.getLsbD_and, BitVec.getLsbD_and, mask_bit w j hj]
  by_cases hjw : j < w
  · rw [List.getElem_eq_getD 0, List.getElem_eq_getD 0, hx.bit (lv ▸ h₁) hjw, hv.bit (lv ▸ h₁) hjw]
  · rw [decide_eq_false hjw, Bool.and_false, Bool.and_false]

/-! A field `(x &&& m) >>> s` or `(x &&& m) <<< s` has no bit outside `k` when the shifted mask has none. -/

theorem shr_within (x m k : B) (s : Nat) (h : m >>> s &&& k = m >>> s) :
    (x &&& m) >>> s &&& k = (x &&& m) >>> s := by
  rw [BitVec.ushiftRight_and_distrib, BitVec.and_assoc, h]

theorem shl_within (x m k : B) (s : Nat) (h : m <<< s &&& k = m <<< s) :
    (x &&& m) <<< s &&& k = (x &&& m) <<< s := by
  rw [BitVec.shiftLeft_and_distrib, BitVec.and_assoc, h]

/-! ## checked-in tables (`internal/bitpack/bitpack.go`)

Per width, three facts are read off the tables bit by bit: `pack_spec` (the packed bytes are the layout of
the values), `unpack_layout` (the bytes are the layout of the unpacked values) and `unpack_within` (the
unpacked values have `w` bits).  Both round trips follow from these by `Layout.values_eq`/`stream_eq`. -/
section Table

/-- the packed bytes are the LSB-first little-endian layout of the Parquet specification -/
theorem pack_spec1 (x0 x1 x2 x3 x4 x5 x6 x7 : B) :
    Layout 1 (Bitpack.pack1 x0 x1 x2 x3 x4 x5 x6 x7) [x0, x1, x2, x3, x4, x5, x6, x7] := by
  simp only [Layout, Nat.reduceMul, Nat.forall_lt_succ_right, Nat.not_lt_zero, false_imp_iff, implies_true, true_and]
  simp only [streamBit, specBit, Bitpack.pack1, bitfield, bitfield_proc]

theorem unpack_layout1 (b0 : B) : Layout 1 [b0] (Bitpack.unpack1 b0) := by
  simp only [Layout, Nat.reduceMul, Nat.forall_lt_succ_right, Nat.not_lt_zero, false_imp_iff, implies_true, true_and]
  simp only [streamBit, specBit, Bitpack.unpack1, bitfield, bitfield_proc]

theorem unpack_within1 (b0 : B) : ∀ v ∈ Bitpack.unpack1 b0, v &&& mask 1 = v := by
  simp (discharger := decide) only [Bitpack.unpack1, List.forall_mem_cons, List.not_mem_nil, false_imp_iff, implies_true,
    and_true, shr_within]

theorem pack_spec2 (x0 x1 x2 x3 x4 x5 x6 x7 : B) :
    Layout 2 (Bitpack.pack2 x0 x1 x2 x3 x4 x5 x6 x7) [x0, x1, x2, x3, x4, x5, x6, x7] := by
  simp only [Layout, Nat.reduceMul, Nat.forall_lt_succ_right, Nat.not_lt_zero, false_imp_iff, implies_true, true_and]
  simp only [streamBit, specBit, Bitpack.pack2, bitfield, bitfield_proc]

theorem unpack_layout2 (b0 b1 : B) : Layout 2 [b0, b1] (Bitpack.unpack2 b0 b1) := by
  simp only [Layout, Nat.reduceMul, Nat.forall_lt_succ_right, Nat.not_lt_zero, false_imp_iff, implies_true, true_and]
  simp only [streamBit, specBit, Bitpack.unpack2, bitfield, bitfield_proc]

theorem unpack_within2 (b0 b1 : B) : ∀ v ∈ Bitpack.unpack2 b0 b1, v &&& mask 2 = v := by
  simp (discharger := decide) only [Bitpack.unpack2, List.forall_mem_cons, List.not_mem_nil, false_imp_iff, implies_true,
    and_true, shr_within]

theorem pack_spec3 (x0 x1 x2 x3 x4 x5 x6 x7 : B) :
    Layout 3 (Bitpack.pack3 x0 x1 x2 x3 x4 x5 x6 x7) [x0, x1, x2, x3, x4, x5, x6, x7] := by
  simp only [Layout, Nat.reduceMul, Nat.forall_lt_succ_right, Nat.not_lt_zero, false_imp_iff, implies_true, true_and]
  simp only [streamBit, specBit, Bitpack.pack3, bitfield, bitfield_proc]

theorem unpack_layout3 (b0 b1 b2 : B) : Layout 3 [b0, b1, b2] (Bitpack.unpack3 b0 b1 b2) := by
  simp only [Layout, Nat.reduceMul, Nat.forall_lt_succ_right, Nat.not_lt_zero, false_imp_iff, implies_true, true_and]
  simp only [streamBit, specBit, Bitpack.unpack3, bitfield, bitfield_proc]

theorem unpack_within3 (b0 b1 b2 : B) : ∀ v ∈ Bitpack.unpack3 b0 b1 b2, v &&& mask 3 = v := by
  simp (discharger := decide) only [Bitpack.unpack3, List.forall_mem_cons, List.not_mem_nil, false_imp_iff, implies_true,
    and_true, BitVec.and_or_distrib_right, shr_within, shl_within]

theorem pack_spec4 (x0 x1 x2 x3 x4 x5 x6 x7 : B) :
    Layout 4 (Bitpack.pack4 x0 x1 x2 x3 x4 x5 x6 x7) [x0, x1, x2, x3, x4, x5, x6, x7] := by
  simp only [Layout, Nat.reduceMul, Nat.forall_lt_succ_right, Nat.not_lt_zero, false_imp_iff, implies_true, true_and]
  simp only [streamBit, specBit, Bitpack.pack4, bitfield, bitfield_proc]

theorem unpack_layout4 (b0 b1 b2 b3 : B) : Layout 4 [b0, b1, b2, b3] (Bitpack.unpack4 b0 b1 b2 b3) := by
  simp only [Layout, Nat.reduceMul, Nat.forall_lt_succ_right, Nat.not_lt_zero, false_imp_iff, implies_true, true_and]
  simp only [streamBit, specBit, Bitpack.unpack4, bitfield, bitfield_proc]

theorem unpack_within4 (b0 b1 b2 b3 : B) : ∀ v ∈ Bitpack.unpack4 b0 b1 b2 b3, v &&& mask 4 = v := by
  simp (discharger := decide) only [Bitpack.unpack4, List.forall_mem_cons, List.not_mem_nil, false_imp_iff, implies_true,
    and_true, shr_within]

theorem unpack_pack1 (x0 x1 x2 x3 x4 x5 x6 x7 : B) :
    ∃ b0, Bitpack.pack1 x0 x1 x2 x3 x4 x5 x6 x7 = [b0] ∧
      Bitpack.unpack1 b0 = [x0 &&& 1#8, x1 &&& 1#8, x2 &&& 1#8, x3 &&& 1#8, x4 &&& 1#8, x5 &&& 1#8, x6 &&& 1#8, x7 &&& 1#8] :=
  ⟨_, rfl, Layout.values_eq (w := 1) (pack_spec1 _ _ _ _ _ _ _ _) (unpack_layout1 _) rfl rfl (unpack_within1 _)⟩

theorem unpack_pack2 (x0 x1 x2 x3 x4 x5 x6 x7 : B) :
    ∃ b0 b1, Bitpack.pack2 x0 x1 x2 x3 x4 x5 x6 x7 = [b0, b1] ∧
      Bitpack.unpack2 b0 b1 = [x0 &&& 3#8, x1 &&& 3#8, x2 &&& 3#8, x3 &&& 3#8, x4 &&& 3#8, x5 &&& 3#8, x6 &&& 3#8, x7 &&& 3#8] :=
  ⟨_, _, rfl, Layout.values_eq (w := 2) (pack_spec2 _ _ _ _ _ _ _ _) (unpack_layout2 _ _) rfl rfl (unpack_within2 _ _)⟩

theorem unpack_pack3 (x0 x1 x2 x3 x4 x5 x6 x7 : B) :
    ∃ b0 b1 b2, Bitpack.pack3 x0 x1 x2 x3 x4 x5 x6 x7 = [b0, b1, b2] ∧
      Bitpack.unpack3 b0 b1 b2 = [x0 &&& 7#8, x1 &&& 7#8, x2 &&& 7#8, x3 &&& 7#8, x4 &&& 7#8, x5 &&& 7#8, x6 &&& 7#8, x7 &&& 7#8] :=
  ⟨_, _, _, rfl, Layout.values_eq (w := 3) (pack_spec3 _ _ _ _ _ _ _ _) (unpack_layout3 _ _ _) rfl rfl (unpack_within3 _ _ _)⟩

theorem unpack_pack4 (x0 x1 x2 x3 x4 x5 x6 x7 : B) :
    ∃ b0 b1 b2 b3, Bitpack.pack4 x0 x1 x2 x3 x4 x5 x6 x7 = [b0, b1, b2, b3] ∧
      Bitpack.unpack4 b0 b1 b2 b3 = [x0 &&& 15#8, x1 &&& 15#8, x2 &&& 15#8, x3 &&& 15#8, x4 &&& 15#8, x5 &&& 15#8, x6 &&& 15#8, x7 &&& 15#8] :=
  ⟨_, _, _, _, rfl, Layout.values_eq (w := 4) (pack_spec4 _ _ _ _ _ _ _ _) (unpack_layout4 _ _ _ _) rfl rfl (unpack_within4 _ _ _ _)⟩

theorem pack_unpack1 (b0 : B) :
    ∃ v0 v1 v2 v3 v4 v5 v6 v7, Bitpack.unpack1 b0 = [v0, v1, v2, v3, v4, v5, v6, v7] ∧
      Bitpack.pack1 v0 v1 v2 v3 v4 v5 v6 v7 = [b0] :=
  ⟨_, _, _, _, _, _, _, _, rfl, Layout.stream_eq (w := 1) (unpack_layout1 _) (pack_spec1 _ _ _ _ _ _ _ _) rfl rfl⟩

theorem pack_unpack2 (b0 b1 : B) :
    ∃ v0 v1 v2 v3 v4 v5 v6 v7, Bitpack.unpack2 b0 b1 = [v0, v1, v2, v3, v4, v5, v6, v7] ∧
      Bitpack.pack2 v0 v1 v2 v3 v4 v5 v6 v7 = [b0, b1] :=
  ⟨_, _, _, _, _, _, _, _, rfl, Layout.stream_eq (w := 2) (unpack_layout2 _ _) (pack_spec2 _ _ _ _ _ _ _ _) rfl rfl⟩

theorem pack_unpack3 (b0 b1 b2 : B) :
    ∃ v0 v1 v2 v3 v4 v5 v6 v7, Bitpack.unpack3 b0 b1 b2 = [v0, v1, v2, v3, v4, v5, v6, v7] ∧
      Bitpack.pack3 v0 v1 v2 v3 v4 v5 v6 v7 = [b0, b1, b2] :=
  ⟨_, _, _, _, _, _, _, _, rfl, Layout.stream_eq (w := 3) (unpack_layout3 _ _ _) (pack_spec3 _ _ _ _ _ _ _ _) rfl rfl⟩

theorem pack_unpack4 (b0 b1 b2 b3 : B) :
    ∃ v0 v1 v2 v3 v4 v5 v6 v7, Bitpack.unpack4 b0 b1 b2 b3 = [v0, v1, v2, v3, v4, v5, v6, v7] ∧
      Bitpack.pack4 v0 v1 v2 v3 v4 v5 v6 v7 = [b0, b1, b2, b3] :=
  ⟨_, _, _, _, _, _, _, _, rfl, Layout.stream_eq (w := 4) (unpack_layout4 _ _ _ _) (pack_spec4 _ _ _ _ _ _ _ _) rfl rfl⟩

end Table

/-! ## what `cmd/bitpackgen` generates today computes the same functions -/
section Fresh

theorem fresh_pack1 (x0 x1 x2 x3 x4 x5 x6 x7 : B) :
    BitpackFresh.pack1 x0 x1 x2 x3 x4 x5 x6 x7 = Bitpack.pack1 x0 x1 x2 x3 x4 x5 x6 x7 := by
  rfl

theorem fresh_unpack1 (b0 : B) :
    BitpackFresh.unpack1 b0 = Bitpack.unpack1 b0 := by
  rfl

theorem fresh_pack2 (x0 x1 x2 x3 x4 x5 x6 x7 : B) :
    BitpackFresh.pack2 x0 x1 x2 x3 x4 x5 x6 x7 = Bitpack.pack2 x0 x1 x2 x3 x4 x5 x6 x7 := by
  rfl

theorem fresh_unpack2 (b0 b1 : B) :
    BitpackFresh.unpack2 b0 b1 = Bitpack.unpack2 b0 b1 := by
  rfl

theorem fresh_pack3 (x0 x1 x2 x3 x4 x5 x6 x7 : B) :
    BitpackFresh.pack3 x0 x1 x2 x3 x4 x5 x6 x7 = Bitpack.pack3 x0 x1 x2 x3 x4 x5 x6 x7 := by
  rfl

theorem fresh_unpack3 (b0 b1 b2 : B) :
    BitpackFresh.unpack3 b0 b1 b2 = Bitpack.unpack3 b0 b1 b2 := by
  rfl

theorem fresh_pack4 (x0 x1 x2 x3 x4 x5 x6 x7 : B) :
    BitpackFresh.pack4 x0 x1 x2 x3 x4 x5 x6 x7 = Bitpack.pack4 x0 x1 x2 x3 x4 x5 x6 x7 := by
  rfl

theorem fresh_unpack4 (b0 b1 b2 b3 : B) :
    BitpackFresh.unpack4 b0 b1 b2 b3 = Bitpack.unpack4 b0 b1 b2 b3 := by
  rfl

theorem fresh_dispatch :
    BitpackFresh.Pack_cases = Bitpack.Pack_cases ∧ BitpackFresh.Unpack_cases = Bitpack.Unpack_cases ∧
    BitpackFresh.Pack_default = Bitpack.Pack_default ∧ BitpackFresh.Unpack_default = Bitpack.Unpack_default ∧
    BitpackFresh.maxSize = Bitpack.maxSize := by decide

end Fresh

/-- `Pack`/`Unpack` dispatch widths 1–4 to the tables above; other widths take the `default:` arm -/
theorem dispatch_ok : PQ.dispatchOK = true := by decide

/-- `bitpack.MaxSize` is enough room for every supported width -/
theorem maxSize_ok : Bitpack.maxSize = 4 := by decide

end PQ.C17
