import PQ.Model.Spec
import PQ.Lemmas.Basic
/-!
PLAIN value sections: the writer's `plainValues` is inverted by the specification parser (`specValues`) and by the
reader (`readValues`, `getBools`).
-/
namespace PQ

/-- a well-typed PLAIN value: numerics have exactly the type's width, booleans are `[0]` or `[1]`,
strings are shorter than 2^31 (the reader's `int32` length), every element is a byte -/
def WTVal (ty : PType) (v : Bytes) : Prop :=
  (∀ b ∈ v, b < 256) ∧
  (match ty with
   | .bool => v = [0] ∨ v = [1]
   | .str => v.length < 2 ^ 31
   | _ => v.length = ty.width)

instance (ty : PType) (v : Bytes) : Decidable (WTVal ty v) := by
  unfold WTVal; cases ty <;> exact inferInstance

/-- the types whose PLAIN form is the value's bytes (`binary.Write`) -/
def PType.isFixed (ty : PType) : Prop := ty ≠ .bool ∧ ty ≠ .str

theorem WTVal.fixed {ty : PType} {v : Bytes} (h : WTVal ty v) (hf : ty.isFixed) : v.length = ty.width := by
  obtain ⟨_, h⟩ := h
  cases ty <;> first | exact h | exact absurd rfl hf.1 | exact absurd rfl hf.2

theorem WTVal.str {v : Bytes} (h : WTVal .str v) : v.length < 2 ^ 31 := h.2

theorem plainValues_fixed {ty : PType} (hf : ty.isFixed) (vals : List Bytes) :
    plainValues ty vals = vals.flatten := by
  cases ty <;> first | rfl | exact absurd rfl hf.1 | exact absurd rfl hf.2

/-- a well-formed page of column `c` -/
structure WFPage (c : Col) (es : PageEntries) : Prop where
  /-- levels within the column's maxima, a value exactly at the maximum definition level; a
  `RequiredField` has no levels and always a value -/
  entries : ∀ e ∈ es, if c.isRequired then e.rep = 0 ∧ e.dl = 0 ∧ e.val.isSome
    else e.dl ≤ c.maxDef ∧ e.rep ≤ c.maxRep ∧ (e.val.isSome ↔ e.dl = c.maxDef)
  vals : ∀ v ∈ nonNull es, WTVal c.ty v
  /-- the length bound of the level codec (explained at `encode_runs`, Lemmas/RleEnc.lean) -/
  len : es.length + 8 ≤ 2 ^ 30
  /-- definition levels fit in 4 bits, the widest level width; repetition levels then do too
  (`Col.maxRep_le_maxDef`, Lemmas/PageRT.lean, where the lower bound 1 for columns with levels is shown as well) -/
  maxDef : c.maxDef ≤ 15

theorem readFixed_flatten (w : Nat) (vals : List Bytes) (h : ∀ v ∈ vals, v.length = w) (rest : Bytes) :
    readFixed w vals.length (vals.flatten ++ rest) = vals := by
  induction vals with
  | nil => rfl
  | cons v vs ih =>
    have h1 := h v List.mem_cons_self
    rw [List.flatten_cons, List.length_cons, readFixed, List.append_assoc, List.take_left' h1, List.drop_left' h1,
      ih fun x hx => h x (List.mem_cons_of_mem _ hx)]

theorem plain_fixed {ty : PType} (hf : ty.isFixed) (vals : List Bytes) (h : ∀ v ∈ vals, WTVal ty v) :
    plainValues ty vals = vals.flatten ∧ vals.flatten.length = vals.length * ty.width
      ∧ readFixed ty.width vals.length vals.flatten = vals := by
  have hw : ∀ v ∈ vals, v.length = ty.width := fun v hv => (h v hv).fixed hf
  have hr := readFixed_flatten ty.width vals hw []
  rw [List.append_nil] at hr
  exact ⟨plainValues_fixed hf vals, by rw [length_flatten_const _ vals hw, Nat.mul_comm], hr⟩

theorem takeStrings_plain (vals : List Bytes) (h : ∀ v ∈ vals, v.length < 2 ^ 32) (rest : Bytes) :
    takeStrings vals.length ((vals.flatMap fun v => le32 v.length ++ v) ++ rest) = .ok (vals, rest) := by
  induction vals with
  | nil => rfl
  | cons v vs ih =>
    obtain ⟨ht, hd⟩ := le32_take v.length (h v List.mem_cons_self)
      (v ++ ((vs.flatMap fun v => le32 v.length ++ v) ++ rest))
    rw [List.flatMap_cons, List.length_cons, List.append_assoc, List.append_assoc, takeStrings,
      if_neg (by rw [List.length_append, le32_length]; exact Nat.not_lt.mpr (Nat.le_add_right _ _))]
    simp only [ht, hd]
    rw [if_neg (by rw [List.length_append]; exact Nat.not_lt.mpr (Nat.le_add_right _ _)), List.drop_left, List.take_left,
      ih fun x hx => h x (List.mem_cons_of_mem _ hx)]
    rfl

theorem readStrings_plain (vals : List Bytes) (h : ∀ v ∈ vals, v.length < 2 ^ 31) (rest : Bytes) :
    readStrings vals.length ((vals.flatMap fun v => le32 v.length ++ v) ++ rest) = .ok vals := by
  induction vals with
  | nil => rfl
  | cons v vs ih =>
    have h1 := h v List.mem_cons_self
    obtain ⟨ht, hd⟩ := le32_take v.length (Nat.lt_trans h1 (by decide))
      (v ++ ((vs.flatMap fun v => le32 v.length ++ v) ++ rest))
    -- a non-empty string is followed by its own bytes
    have hne : ¬ (v.length > 0 ∧ v ++ ((vs.flatMap fun v => le32 v.length ++ v) ++ rest) = []) := fun ⟨hp, he⟩ =>
      absurd (congrArg List.length (List.append_eq_nil_iff.mp he).1) (Nat.ne_of_gt hp)
    rw [List.flatMap_cons, List.length_cons, List.append_assoc, List.append_assoc, readStrings,
      if_neg (by rw [List.length_append, le32_length]; exact Nat.not_lt.mpr (Nat.le_add_right _ _))]
    simp only [ht, hd]
    rw [if_neg (Nat.not_le.mpr h1), if_neg hne, List.drop_left, List.take_left,
      ih fun x hx => h x (List.mem_cons_of_mem _ hx), Nat.sub_self, List.replicate_zero, List.append_nil]

def bit (b : Bool) : Nat := if b then 1 else 0

/-- the boolean the writer extracts from a PLAIN boolean value (`v[0] != 0`) -/
def boolOf (v : Bytes) : Bool := v.head?.getD 0 != 0

theorem map_bit_boolOf (vals : List Bytes) (h : ∀ v ∈ vals, WTVal .bool v) :
    (vals.map boolOf).map (fun b => [bit b]) = vals := by
  rw [List.map_map]
  exact (List.map_congr_left fun v hv => by rcases (h v hv).2 with rfl | rfl <;> rfl).trans (List.map_id _)

theorem plainValues_bool (vals : List Bytes) : plainValues .bool vals = packBools (vals.map boolOf) := rfl

theorem packByte_cons (b : Bool) (bs : List Bool) : packByte (b :: bs) = bit b + 2 * packByte bs := rfl

theorem packByte_bit (l : List Bool) (i : Nat) : packByte l / 2 ^ i % 2 = bit (l.getD i false) := by
  induction l generalizing i with
  | nil => rw [packByte, Nat.zero_div]; rfl
  | cons b bs ih =>
    have hb : bit b < 2 := by cases b <;> decide
    cases i with
    | zero => rw [packByte_cons, Nat.pow_zero, Nat.div_one, Nat.add_mul_mod_self_left, Nat.mod_eq_of_lt hb]; rfl
    | succ i =>
      rw [packByte_cons, List.getD_cons_succ, ← ih i, Nat.pow_succ, Nat.mul_comm (2 ^ i) 2, ← Nat.div_div_eq_div_mul,
        Nat.add_mul_div_left _ _ (by decide : 0 < 2), Nat.div_eq_of_lt hb, Nat.zero_add]

theorem packByte_lt (l : List Bool) : packByte l < 2 ^ l.length := by
  induction l with
  | nil => exact Nat.one_pos
  | cons b bs ih =>
    have hb : bit b < 2 := by cases b <;> decide
    rw [packByte_cons, List.length_cons, Nat.pow_succ]
    omega

theorem packBoolsAux_succ (fuel : Nat) {bs : List Bool} (h : bs ≠ []) :
    packBoolsAux (fuel + 1) bs = packByte (bs.take 8) :: packBoolsAux fuel (bs.drop 8) := by
  cases bs with
  | nil => exact absurd rfl h
  | cons b tl => rfl

theorem packBoolsAux_length (fuel : Nat) (bs : List Bool) (h : bs.length ≤ fuel) :
    (packBoolsAux fuel bs).length = (bs.length + 7) / 8 := by
  induction fuel generalizing bs with
  | zero => rw [List.eq_nil_of_length_eq_zero (Nat.le_zero.mp h)]; rfl
  | succ f ih =>
    by_cases hb : bs = []
    · rw [hb]; rfl
    · have := List.length_pos_iff.mpr hb
      rw [packBoolsAux_succ f hb, List.length_cons, ih _ (by rw [List.length_drop]; omega), List.length_drop]
      omega

theorem packBools_length (bs : List Bool) : (packBools bs).length = (bs.length + 7) / 8 :=
  packBoolsAux_length _ bs (Nat.le_refl _)

theorem packBoolsAux_lt (fuel : Nat) (bs : List Bool) : ∀ b ∈ packBoolsAux fuel bs, b < 256 := by
  induction fuel generalizing bs with
  | zero => exact nofun
  | succ f ih =>
    rw [packBoolsAux]
    split
    · exact nofun
    · exact List.forall_mem_cons.mpr ⟨Nat.lt_of_lt_of_le (packByte_lt _)
        (Nat.pow_le_pow_right (by decide) (List.length_take_le 8 bs)), ih _⟩

theorem packBoolsAux_bit (fuel : Nat) (bs : List Bool) (h : bs.length ≤ fuel) (i : Nat) (hi : i < bs.length) :
    (packBoolsAux fuel bs).getD (i / 8) 0 / 2 ^ (i % 8) % 2 = bit (bs.getD i false) := by
  induction fuel generalizing bs i with
  | zero => exact absurd (Nat.lt_of_lt_of_le hi h) (Nat.not_lt_zero _)
  | succ f ih =>
    rw [packBoolsAux_succ f (List.ne_nil_of_length_pos (Nat.zero_lt_of_lt hi))]
    by_cases h8 : i < 8
    · rw [Nat.div_eq_of_lt h8, Nat.mod_eq_of_lt h8, List.getD_cons_zero, packByte_bit, List.getD_eq_getElem?_getD,
        List.getElem?_take, if_pos h8, ← List.getD_eq_getElem?_getD]
    · obtain ⟨j, rfl⟩ := Nat.exists_eq_add_of_le' (Nat.le_of_not_lt h8)
      rw [Nat.add_div_right j (by decide), Nat.add_mod_right, List.getD_cons_succ,
        ih (bs.drop 8) (by rw [List.length_drop]; omega) j (by rw [List.length_drop]; omega),
        List.getD_eq_getElem?_getD, List.getElem?_drop, Nat.add_comm, ← List.getD_eq_getElem?_getD]

theorem specBools_pack (bits : List Bool) :
    ((List.range bits.length).map fun i => [(packBools bits).getD (i / 8) 0 / 2 ^ (i % 8) % 2])
      = bits.map fun b => [bit b] := by
  apply List.ext_getElem
  · rw [List.length_map, List.length_map, List.length_range]
  · intro i h1 h2
    rw [List.length_map, List.length_range] at h1
    rw [List.getElem_map, List.getElem_map, List.getElem_range, packBools, packBoolsAux_bit _ bits (Nat.le_refl _) i h1,
      List.getD_eq_getElem?_getD, List.getElem?_eq_getElem h1, Option.getD_some]

theorem unpackBoolByte_packByte (l : List Bool) :
    unpackBoolByte (packByte l) l.length = l.map fun b => [bit b] := by
  apply List.ext_getElem
  · rw [unpackBoolByte, List.length_map, List.length_map, List.length_range]
  · intro i h1 h2
    rw [unpackBoolByte, List.length_map, List.length_range] at h1
    simp only [unpackBoolByte, List.getElem_map, List.getElem_range, packByte_bit, List.getD_eq_getElem?_getD,
      List.getElem?_eq_getElem h1, Option.getD_some]

theorem boolsOfChunk_packAux (fuel : Nat) (bs : List Bool) (h : bs.length ≤ fuel) :
    boolsOfChunk (packBoolsAux fuel bs) bs.length = bs.map fun b => [bit b] := by
  induction fuel generalizing bs with
  | zero => rw [List.eq_nil_of_length_eq_zero (Nat.le_zero.mp h)]; rfl
  | succ f ih =>
    by_cases hb : bs = []
    · rw [hb]; rfl
    · have := List.length_pos_iff.mpr hb
      have hl : min bs.length 8 = (bs.take 8).length := by rw [List.length_take, Nat.min_comm]
      have hd : bs.length - (bs.take 8).length = (bs.drop 8).length :=
        Nat.sub_eq_of_eq_add (by rw [Nat.add_comm, ← List.length_append, List.take_append_drop])
      rw [packBoolsAux_succ f hb, boolsOfChunk, hl, hd, unpackBoolByte_packByte,
        ih _ (by rw [List.length_drop]; omega), ← List.map_append, List.take_append_drop]
theorem boolsOfChunk_pack (bs : List Bool) :
    boolsOfChunk (packBools bs) bs.length = bs.map fun b => [bit b] :=
  boolsOfChunk_packAux _ bs (Nat.le_refl _)

/-- **Multi-page boolean columns.**  Each page's booleans are packed separately (padding every page
to a whole byte); `GetBools` on the concatenated value sections with the per-page counts returns the
concatenated values — whatever follows the last section. -/
theorem getBools_pages (pages : List (List Bytes)) (h : ∀ vs ∈ pages, ∀ v ∈ vs, WTVal .bool v) (rest : Bytes) :
    getBools ((pages.flatMap fun vs => plainValues .bool vs) ++ rest) (pages.map fun vs => (vs.length : Int))
      = .ok pages.flatten := by
  induction pages with
  | nil => rfl
  | cons vs ps ih =>
    have h2 := ih fun x hx => h x (List.mem_cons_of_mem _ hx)
    rw [List.flatMap_cons, List.map_cons, List.flatten_cons, List.append_assoc, getBools]
    by_cases h0 : (vs.length : Int) = 0
    · obtain rfl : vs = [] := List.eq_nil_of_length_eq_zero (Int.ofNat_eq_zero.mp h0)
      rw [if_pos h0, show plainValues .bool [] = [] from rfl, List.nil_append, h2, List.nil_append]
    · have hl : (plainValues .bool vs).length = ((vs.length : Int).toNat + 7) / 8 := by
        rw [plainValues_bool, packBools_length, List.length_map, Int.toNat_natCast]
      have hc : boolsOfChunk (plainValues .bool vs) vs.length = vs := by
        have := boolsOfChunk_pack (vs.map boolOf)
        rw [List.length_map] at this
        rw [plainValues_bool, this, map_bit_boolOf vs (h vs List.mem_cons_self)]
      rw [if_neg h0, if_neg (Int.not_lt.mpr (Int.natCast_nonneg _))]
      simp only [← hl]
      rw [if_neg (by rw [List.length_append]; exact Nat.not_lt.mpr (Nat.le_add_right _ _)), List.drop_left,
        List.take_left, h2, Int.toNat_natCast, hc]

theorem specValues_plain (ty : PType) (vals : List Bytes) (h : ∀ v ∈ vals, WTVal ty v) :
    specValues ty vals.length (plainValues ty vals) = .ok vals := by
  by_cases hs : ty = .str
  · subst hs
    have := takeStrings_plain vals (fun v hv => Nat.lt_trans (h v hv).str (by decide)) []
    rw [List.append_nil] at this
    simp only [specValues, plainValues, this, bind, Except.bind, ne_eq, not_true_eq_false, if_false, pure,
      Except.pure]
  by_cases hb : ty = .bool
  · subst hb
    have := specBools_pack (vals.map boolOf)
    rw [List.length_map, map_bit_boolOf vals h] at this
    rw [specValues, if_neg (by rw [plainValues_bool, packBools_length, List.length_map]; exact fun h => h rfl),
      plainValues_bool, this]
  · obtain ⟨hp, hl, hr⟩ := plain_fixed ⟨hb, hs⟩ vals h
    rw [hp]
    cases ty <;> first
      | exact absurd rfl hb
      | exact absurd rfl hs
      | (simp only [specValues]; rw [if_neg (fun h => h hl), hr])

theorem readValues_plain (ty : PType) (hb : ty ≠ .bool) (vals : List Bytes) (h : ∀ v ∈ vals, WTVal ty v)
    (sizes : List Int) : readValues ty vals.length (plainValues ty vals) sizes = .ok vals := by
  by_cases hs : ty = .str
  · subst hs
    have := readStrings_plain vals (fun v hv => (h v hv).str) []
    rwa [List.append_nil] at this
  · obtain ⟨hp, hl, hr⟩ := plain_fixed ⟨hb, hs⟩ vals h
    rw [hp]
    cases ty <;> first
      | exact absurd rfl hb
      | exact absurd rfl hs
      | (simp only [readValues]; rw [if_neg (Nat.not_lt.mpr (Nat.le_of_eq hl.symm)), hr])

/-- value sections of consecutive pages concatenate (every type but `bool`, which pads per page) -/
theorem plainValues_append (ty : PType) (hty : ty ≠ .bool) (a b : List Bytes) :
    plainValues ty (a ++ b) = plainValues ty a ++ plainValues ty b := by
  cases ty <;> first
    | exact absurd rfl hty
    | simp only [plainValues, List.flatten_append, List.flatMap_append]

theorem plainValues_pages (ty : PType) (hty : ty ≠ .bool) (pages : List (List Bytes)) :
    plainValues ty pages.flatten = pages.flatMap (plainValues ty) := by
  induction pages with
  | nil => cases ty <;> rfl
  | cons p ps ih => rw [List.flatten_cons, plainValues_append ty hty, ih, List.flatMap_cons]

theorem readValues_pages (ty : PType) (pages : List (List Bytes)) (h : ∀ vs ∈ pages, ∀ v ∈ vs, WTVal ty v) :
    readValues ty pages.flatten.length (pages.flatMap (plainValues ty)) (pages.map fun vs => (vs.length : Int))
      = .ok pages.flatten := by
  by_cases hb : ty = .bool
  · subst hb
    have := getBools_pages pages h []
    rwa [List.append_nil] at this
  · rw [← plainValues_pages ty hb]
    exact readValues_plain ty hb _ (fun v hv => by
      obtain ⟨vs, h1, h2⟩ := List.mem_flatten.mp hv
      exact h vs h1 v h2) _

theorem plain_length_fixed (ty : PType) (hf : ty.isFixed) (vals : List Bytes) (h : ∀ v ∈ vals, WTVal ty v) :
    (plainValues ty vals).length = vals.length * ty.width := by
  rw [(plain_fixed hf vals h).1, (plain_fixed hf vals h).2.1]

theorem plain_length_bool (vals : List Bytes) : (plainValues .bool vals).length = (vals.length + 7) / 8 := by
  rw [plainValues_bool, packBools_length, List.length_map]

theorem plain_length_str (vals : List Bytes) :
    (plainValues .str vals).length = (vals.map fun v => 4 + v.length).sum := by
  rw [plainValues, List.length_flatMap]
  exact congrArg _ (List.map_congr_left fun v _ => by rw [List.length_append, le32_length])

theorem plain_bytes_lt (ty : PType) (vals : List Bytes) (h : ∀ v ∈ vals, WTVal ty v) :
    ∀ b ∈ plainValues ty vals, b < 256 := by
  intro b hb
  by_cases hbool : ty = .bool
  · subst hbool
    exact packBoolsAux_lt _ _ b hb
  by_cases hs : ty = .str
  · subst hs
    obtain ⟨v, hv, hb⟩ := List.mem_flatMap.mp hb
    rcases List.mem_append.mp hb with hb | hb
    · exact leBytes_lt 4 _ b hb
    · exact (h v hv).1 b hb
  · rw [plainValues_fixed ⟨hbool, hs⟩] at hb
    obtain ⟨v, hv, hb⟩ := List.mem_flatten.mp hb
    exact (h v hv).1 b hb

/-! ## non-vacuity -/

example : WTVal .i32 [1, 0, 0, 0] := by decide
example : WTVal .bool [1] ∧ WTVal .bool [0] ∧ ¬ WTVal .bool [2] := by decide
example : WTVal .str [104, 105] ∧ ¬ WTVal .str [256] := by decide

/-- ten booleans take two bytes (6 bits of padding), LSB first -/
example : plainValues .bool [[1], [0], [1], [1], [0], [0], [0], [1], [1], [1]] = [0x8d, 0x03] := by decide

/-- two pages of 3 and 2 booleans: one byte each, and `GetBools` with the per-page counts undoes both -/
example : getBools (plainValues .bool [[1], [0], [1]] ++ plainValues .bool [[0], [1]]) [3, 2]
    = .ok [[1], [0], [1], [0], [1]] := by rfl

example : specValues .str 2 (plainValues .str [[104, 105], []]) = .ok [[104, 105], []] := by rfl

end PQ
