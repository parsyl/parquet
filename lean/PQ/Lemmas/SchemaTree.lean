import PQ.Model.Spec
import PQ.Lemmas.Basic
import PQ.Lemmas.SplitOn
import PQ.Lemmas.Dremel
/-!
# The footer schema of an arbitrary struct shape (part of C02)

`FTree` is the shape of a Go struct as the generator sees it: leaves (columns) and groups (nested
structs, optional / repeated or not).  `colsOf` is the list of `Field`s the generator declares for
it, `flattenT` the pre-order flattening the Parquet footer must contain.

`schemaElems` (the mirror of Go's `schema.schema()`) sees only the columns, one at a time, and
recovers the groups from the path prefixes it has not met yet.  `loop_forest` is the simulation:
the columns of a forest append its flattening, add the number of its trees to the parent's child
count, and touch the group map only at keys below the forest's own prefixes — the frame condition
that lets siblings, and same-named groups under different parents, be handled one after the other.
`walk_forest` does the converse for the independent walker `schemaLeaves` on the decoded elements.
-/
namespace PQ
open PQ.Thrift

inductive FTree
  | leaf (name : String) (rep : Rep) (ty : PType)
  | group (name : String) (rep : Rep) (children : List FTree)

def FTree.name : FTree → String
  | .leaf n _ _ => n
  | .group n _ _ => n

/-- the `Field` of a leaf `name` under ancestors named `pre` with repetitions `rs`: `Field.Types` has
one entry per path element when some element is optional/repeated (an `OptionalField`), and is
`[req]` otherwise (a `RequiredField`) -/
def mkCol (pre : List String) (rs : List Rep) (name : String) (rep : Rep) (ty : PType) : Col :=
  { path := pre ++ [name], reps := if (rs ++ [rep]).all (· == .req) then [.req] else rs ++ [rep], ty := ty }

mutual
def colsAux (pre : List String) (rs : List Rep) : FTree → List Col
  | .leaf n r ty => [mkCol pre rs n r ty]
  | .group n r cs => colsAuxL (pre ++ [n]) (rs ++ [r]) cs
def colsAuxL (pre : List String) (rs : List Rep) : List FTree → List Col
  | [] => []
  | t :: ts => colsAux pre rs t ++ colsAuxL pre rs ts
end

/-- the leaf columns of a forest in depth-first order -/
def colsOf (ts : List FTree) : List Col := colsAuxL [] [] ts

mutual
/-- pre-order flattening with direct-children counts -/
def flatT : FTree → List SElem
  | .leaf n r ty => [{ name := n, ty := some ty.phys, rep := some r.code, converted := ty.converted }]
  | .group n r cs => { name := n, rep := some r.code, numChildren := some cs.length } :: flattenT cs
def flattenT : List FTree → List SElem
  | [] => []
  | t :: ts => flatT t ++ flattenT ts
end

/-- the name contains no `'.'` (Go: `strings.Split(name, ".")` keeps it whole) -/
def NoDot (s : String) : Prop := '.' ∉ s.toList

instance (s : String) : Decidable (NoDot s) := inferInstanceAs (Decidable ('.' ∉ s.toList))

/-- sibling names pairwise distinct -/
def SiblingsDistinct (ts : List FTree) : Prop := (ts.map FTree.name).Nodup

instance (ts : List FTree) : Decidable (SiblingsDistinct ts) := inferInstanceAs (Decidable (List.Nodup _))

mutual
/-- Well-formedness of a struct shape.
* a group has at least one child: Go's `schema()` only ever sees leaf columns, so a group without
  leaves below it leaves no trace in the footer (and a Parquet group must have a child);
* the children of a group have pairwise distinct names: groups are keyed by their path, two sibling
  groups with the same name would be merged (see the counter-example at the end);
* a *group* name contains no `'.'`: `schema()` names a group `strings.Split(name, ".")[last]`.
  (Leaf names are used unsplit, `f.Path[len-1]`, so nothing is needed for them here.) -/
def FTree.WF : FTree → Prop
  | .leaf _ _ _ => True
  | .group n _ cs => NoDot n ∧ cs ≠ [] ∧ SiblingsDistinct cs ∧ WFL cs
def WFL : List FTree → Prop
  | [] => True
  | t :: ts => t.WF ∧ WFL ts
end

theorem WFL_iff : ∀ ts : List FTree, WFL ts ↔ ∀ t ∈ ts, t.WF
  | [] => by simp [WFL]
  | t :: ts => by simp [WFL, WFL_iff ts]

mutual
def FTree.decWF : (t : FTree) → Decidable t.WF
  | .leaf _ _ _ => by unfold FTree.WF; exact inferInstance
  | .group n _ cs => by
      unfold FTree.WF
      exact @instDecidableAnd _ _ _ (@instDecidableAnd _ _ _ (@instDecidableAnd _ _ _ (decWFL cs)))
def decWFL : (ts : List FTree) → Decidable (WFL ts)
  | [] => by unfold WFL; exact inferInstance
  | t :: ts => by unfold WFL; exact @instDecidableAnd _ _ t.decWF (decWFL ts)
end

instance (t : FTree) : Decidable t.WF := t.decWF
instance (ts : List FTree) : Decidable (WFL ts) := decWFL ts

namespace SchemaTree

abbrev SSt := List SElem × List (List String × Nat) × Nat

def incN (n : Nat) (e : SElem) : SElem := { e with numChildren := some (e.numChildren.getD 0 + n) }

/-- `n` more direct children for the element at index `par` (`none`: the root's counter) -/
def bumpOut (par : Option Nat) (n : Nat) (out : List SElem) : List SElem :=
  if n = 0 then out else
  match par with
  | none => out
  | some i => out.modify i (incN n)

def bumpCh (par : Option Nat) (n : Nat) (ch : Nat) : Nat :=
  match par with
  | none => ch + n
  | some _ => ch

theorem addChild_eq (p : List String) (out : List SElem) (g : List (List String × Nat)) (ch : Nat) :
    addChild p (out, g, ch) = (bumpOut (g.lookup p) 1 out, g, bumpCh (g.lookup p) 1 ch) := by
  show (match g.lookup p with
    | none => (out, g, ch + 1)
    | some idx => (out.modify idx (incN 1), g, ch)) = _
  cases g.lookup p <;> rfl

theorem bumpOut_length (par n out) : (bumpOut par n out).length = out.length := by
  unfold bumpOut
  split
  · rfl
  · cases par <;> simp

theorem bumpOut_append (par : Option Nat) (n : Nat) (out x : List SElem)
    (h : ∀ i, par = some i → i < out.length) : bumpOut par n (out ++ x) = bumpOut par n out ++ x := by
  unfold bumpOut
  split
  · rfl
  · cases par with
    | none => rfl
    | some i => exact modify_append_left _ _ _ _ (h i rfl)

theorem bumpOut_add (par : Option Nat) (n m : Nat) (out : List SElem) :
    bumpOut par m (bumpOut par n out) = bumpOut par (n + m) out := by
  unfold bumpOut
  by_cases hn : n = 0
  · subst hn; simp
  · by_cases hm : m = 0
    · subst hm; simp
    · rw [if_neg hn, if_neg hm, if_neg (by omega)]
      cases par with
      | none => rfl
      | some i =>
        simp only [List.modify_modify_eq]
        congr 1
        funext e
        simp [incN, Function.comp, Nat.add_assoc]

theorem bumpCh_add (par : Option Nat) (n m ch : Nat) : bumpCh par m (bumpCh par n ch) = bumpCh par (n + m) ch := by
  cases par <;> simp [bumpCh, Nat.add_assoc]

theorem schemaGroups_skip (types : List Rep) (path : List String) :
    ∀ (ms rest : List String) (i : Nat) (out : List SElem) (g : List (List String × Nat)) (ch : Nat),
    (∀ j, i ≤ j → j < i + ms.length → (g.lookup (path.take (j+1))).isSome = true) →
    schemaGroups types path i (ms ++ rest) (path.take i) (out, g, ch) =
      schemaGroups types path (i + ms.length) rest (path.take (i + ms.length)) (out, g, ch)
  | [], rest, i, out, g, ch, _ => by simp
  | m :: ms, rest, i, out, g, ch, h => by
    have h0 := h i (Nat.le_refl _) (by simp)
    rw [List.cons_append, schemaGroups]
    simp only []
    cases hl : g.lookup (path.take (i+1)) with
    | none => rw [hl] at h0; simp at h0
    | some v =>
      simp only []
      rw [schemaGroups_skip types path ms rest (i+1) out g ch
        (fun j h1 h2 => h j (by omega) (by simp only [List.length_cons]; omega))]
      simp only [List.length_cons]
      rw [show i + 1 + ms.length = i + (ms.length + 1) by omega]

/-- the schema element `schema()` emits for a new group: its children are counted as they come -/
def groupElem (n : String) (r : Rep) : SElem := { name := n, rep := some r.code, numChildren := some 0 }

theorem schemaGroups_new (types : List Rep) (path : List String) (i : Nat) (name : String) (names parent : List String)
    (out : List SElem) (g : List (List String × Nat)) (ch : Nat) (h : g.lookup (path.take (i+1)) = none) :
    schemaGroups types path i (name :: names) parent (out, g, ch) =
      schemaGroups types path (i+1) names (path.take (i+1))
        (addChild parent (out ++ [groupElem (lastPart name) ((types[i]?).getD .req)],
          (path.take (i+1), out.length) :: g, ch)) := by
  rw [schemaGroups]
  simp only [h]
  rfl

/-- one iteration of the outer loop of `schema()` -/
def colStep (c : Col) (st : SSt) : SSt :=
  let r := schemaGroups c.reps c.path 0 c.path.dropLast [] st
  addChild r.2 (r.1.1 ++ [{ name := c.path.getLast?.getD "", ty := some c.ty.phys, rep := some c.leafRep.code, converted := c.ty.converted }],
    r.1.2.1, r.1.2.2)

theorem schemaLoop_cons (c : Col) (cs : List Col) (st : SSt) (h : c.path ≠ []) :
    schemaLoop (c :: cs) st = schemaLoop cs (colStep c st) := by
  obtain ⟨out, g, ch⟩ := st
  rw [schemaLoop]
  have : c.path.length ≠ 0 := by simpa using h
  rw [if_neg this]
  rfl

theorem bumpOut_last (A : List SElem) (h : SElem) {N : Nat} (hN : N ≠ 0) :
    bumpOut (some A.length) N (A ++ [h]) = A ++ [incN N h] := by
  unfold bumpOut
  rw [if_neg hN]
  exact modify_append_length _ _ _ _

/-- every group on the path `pre` has been emitted -/
def Anc (pre : List String) (g : List (List String × Nat)) : Prop :=
  ∀ j, j < pre.length → (g.lookup (pre.take (j+1))).isSome = true

theorem skip_pre (types : List Rep) (pre suf rest : List String) (out : List SElem) (g : List (List String × Nat)) (ch : Nat)
    (hanc : Anc pre g) :
    schemaGroups types (pre ++ suf) 0 (pre ++ rest) [] (out, g, ch) =
      schemaGroups types (pre ++ suf) pre.length rest pre (out, g, ch) := by
  have := schemaGroups_skip types (pre ++ suf) pre rest 0 out g ch (by
    intro j _ hj
    rw [List.take_append_of_le_length (by omega)]
    exact hanc j (by omega))
  simpa using this

theorem anc_push {pre : List String} {g : List (List String × Nat)} (n : String) (i : Nat)
    (hanc : Anc pre g) : Anc (pre ++ [n]) ((pre ++ [n], i) :: g) := by
  intro j hj
  simp only [List.length_append, List.length_singleton] at hj
  by_cases hj' : j < pre.length
  · rw [List.take_append_of_le_length (by omega), lookup_cons_ne']
    · exact hanc j hj'
    · intro he
      have := congrArg List.length he
      simp at this
      omega
  · have : j + 1 = (pre ++ [n]).length := by simp; omega
    rw [this, List.take_length, List.lookup_cons_self]; rfl

theorem lastPart_of_noDot {s : String} (h : NoDot s) : lastPart s = s := by
  have hsplit := Parse.splitSpec_single_notin '.' s.toList [] [] h
  rw [List.append_nil, List.nil_append, Parse.splitSpec] at hsplit
  unfold lastPart
  rw [Parse.splitOn_spec s "." (by decide), show ".".toList = ['.'] by decide, hsplit]
  simp

/-- the schema element of a leaf column -/
def leafElem (c : Col) : SElem :=
  { name := c.path.getLast?.getD "", ty := some c.ty.phys, rep := some c.leafRep.code, converted := c.ty.converted }

theorem colStep_leaf (c : Col) (pre : List String) (n : String) (hp : c.path = pre ++ [n])
    (out : List SElem) (g : List (List String × Nat)) (ch : Nat)
    (hanc : Anc pre g) : colStep c (out, g, ch) = addChild pre (out ++ [leafElem c], g, ch) := by
  unfold colStep leafElem
  rw [hp, List.dropLast_concat]
  have := skip_pre c.reps pre [n] [] out g ch hanc
  rw [List.append_nil] at this
  rw [this, schemaGroups]

/-- the first column below a group not yet emitted: its step is the same as after emitting the
group (registered at the end of `out`, counted as a child of `pre`) -/
theorem colStep_emit (c : Col) (pre : List String) (n m : String) (ms : List String)
    (hp : c.path = pre ++ n :: m :: ms) {r : Rep} (hrep : (c.reps[pre.length]?).getD .req = r)
    (hnd : NoDot n) (out : List SElem) (g : List (List String × Nat)) (ch : Nat)
    (hanc : Anc pre g) (hidx : ∀ i, g.lookup pre = some i → i < out.length)
    (hfresh : g.lookup (pre ++ [n]) = none) :
    colStep c (out, g, ch) = colStep c (bumpOut (g.lookup pre) 1 out ++ [groupElem n r],
      (pre ++ [n], out.length) :: g, bumpCh (g.lookup pre) 1 ch) := by
  have hdl : c.path.dropLast = pre ++ n :: (m :: ms).dropLast := by
    rw [hp, List.dropLast_append_of_ne_nil (by simp)]; rfl
  have htake : (pre ++ n :: m :: ms).take (pre.length + 1) = pre ++ [n] := by
    rw [show pre ++ n :: m :: ms = (pre ++ [n]) ++ m :: ms by simp,
      List.take_append_of_le_length (by simp), List.take_of_length_le (by simp)]
  have hne : pre ≠ pre ++ [n] := fun he => by simpa using congrArg List.length he
  -- left: skip `pre`, then emit
  have hL : schemaGroups c.reps c.path 0 c.path.dropLast [] (out, g, ch) =
      schemaGroups c.reps c.path (pre.length + 1) (m :: ms).dropLast (pre ++ [n])
        (bumpOut (g.lookup pre) 1 out ++ [groupElem n r], (pre ++ [n], out.length) :: g,
          bumpCh (g.lookup pre) 1 ch) := by
    rw [hdl, hp, skip_pre c.reps pre (n :: m :: ms) _ out g ch hanc,
      schemaGroups_new _ _ _ _ _ _ _ _ _ (by rw [htake]; exact hfresh), htake, hrep,
      lastPart_of_noDot hnd, addChild_eq, lookup_cons_ne' hne, bumpOut_append _ _ _ _ hidx]
  -- right: skip `pre ++ [n]`
  have hR : ∀ o' c', schemaGroups c.reps c.path 0 c.path.dropLast [] (o', (pre ++ [n], out.length) :: g, c') =
      schemaGroups c.reps c.path (pre.length + 1) (m :: ms).dropLast (pre ++ [n]) (o', (pre ++ [n], out.length) :: g, c') := by
    intro o' c'
    have hp2 : c.path = (pre ++ [n]) ++ m :: ms := by rw [hp]; simp
    have hdl2 : c.path.dropLast = (pre ++ [n]) ++ (m :: ms).dropLast := by rw [hdl]; simp
    rw [hdl2, hp2, skip_pre c.reps (pre ++ [n]) (m :: ms) _ o' _ c' (anc_push n _ hanc)]
    simp
  unfold colStep
  rw [hL, hR]

/-- every column below ancestors `pre`/`rs` has a path strictly extending `pre`, and its `Types`
read at an ancestor's position (default required) give the ancestor's repetition -/
def ColOK (pre : List String) (rs : List Rep) (c : Col) : Prop :=
  (∃ m ms, c.path = pre ++ m :: ms) ∧ ∀ j, j < rs.length → (c.reps[j]?).getD .req = (rs[j]?).getD .req

theorem mkCol_ok (pre : List String) (rs : List Rep) (n : String) (r : Rep) (ty : PType) :
    ColOK pre rs (mkCol pre rs n r ty) := by
  refine ⟨⟨n, [], rfl⟩, ?_⟩
  intro j hj
  unfold mkCol
  simp only []
  split
  · rename_i h
    have hall := (all_req_iff _).mp h
    have h1 : rs[j]? = some .req := by
      rw [List.getElem?_eq_getElem hj, hall (rs[j]) (by simp)]
    rw [h1]
    cases j <;> simp
  · rw [List.getElem?_append_left hj]

theorem ColOK_up {pre : List String} {rs : List Rep} {n : String} {r : Rep} {c : Col}
    (h : ColOK (pre ++ [n]) (rs ++ [r]) c) : ColOK pre rs c := by
  obtain ⟨⟨m, ms, hp⟩, hr⟩ := h
  refine ⟨⟨n, m :: ms, by rw [hp]; simp⟩, ?_⟩
  intro j hj
  rw [hr j (by simp; omega), List.getElem?_append_left hj]

mutual
theorem cols_ok : (t : FTree) → ∀ (pre : List String) (rs : List Rep), ∀ c ∈ colsAux pre rs t, ColOK pre rs c
  | .leaf n r ty, pre, rs, c, hc => by
    rw [colsAux] at hc
    rw [List.mem_singleton.mp hc]
    exact mkCol_ok ..
  | .group n r cs, pre, rs, c, hc => by
    rw [colsAux] at hc
    exact ColOK_up (colsL_ok cs _ _ c hc)
theorem colsL_ok : (ts : List FTree) → ∀ (pre : List String) (rs : List Rep), ∀ c ∈ colsAuxL pre rs ts, ColOK pre rs c
  | [], pre, rs, c, hc => by rw [colsAuxL] at hc; cases hc
  | t :: ts, pre, rs, c, hc => by
    rw [colsAuxL, List.mem_append] at hc
    cases hc with
    | inl h => exact cols_ok t pre rs c h
    | inr h => exact colsL_ok ts pre rs c h
end

mutual
theorem cols_ne : (t : FTree) → t.WF → ∀ (pre : List String) (rs : List Rep), colsAux pre rs t ≠ []
  | .leaf n r ty, _, pre, rs => by rw [colsAux]; simp
  | .group n r cs, h, pre, rs => by
    rw [FTree.WF] at h
    rw [colsAux]
    exact colsL_ne cs h.2.2.2 h.2.1 _ _
theorem colsL_ne : (ts : List FTree) → WFL ts → ts ≠ [] → ∀ (pre : List String) (rs : List Rep), colsAuxL pre rs ts ≠ []
  | [], _, h, _, _ => absurd rfl h
  | t :: ts, h, _, pre, rs => by
    rw [WFL] at h
    rw [colsAuxL]
    intro he
    exact cols_ne t h.1 pre rs (List.append_eq_nil_iff.mp he).1
end

theorem mkCol_leafRep (pre : List String) (rs : List Rep) (n : String) (r : Rep) (ty : PType) :
    (mkCol pre rs n r ty).leafRep = r := by
  unfold Col.leafRep Col.isRequired mkCol
  simp only []
  by_cases h : ((rs ++ [r]).all (· == .req)) = true
  · rw [if_pos h]
    have := (all_req_iff _).mp h r (by simp)
    simp [this]
  · rw [if_neg h, if_neg h]
    simp

theorem leafElem_mkCol (pre : List String) (rs : List Rep) (n : String) (r : Rep) (ty : PType) :
    leafElem (mkCol pre rs n r ty) = { name := n, ty := some ty.phys, rep := some r.code, converted := ty.converted } := by
  unfold leafElem
  rw [mkCol_leafRep]
  simp [mkCol]

theorem not_prefix_of_length_le {pre l : List String} (x : String) (h : l.length ≤ pre.length) :
    ¬ (pre ++ [x]) <+: l := by
  intro hp
  have := hp.length_le
  simp at this
  omega

theorem prefix_ne (pre : List String) {x y : String} (hxy : x ≠ y) {k : List String}
    (hx : (pre ++ [x]) <+: k) : ¬ (pre ++ [y]) <+: k := by
  intro hy
  obtain ⟨s, hs⟩ := hx
  obtain ⟨s', hs'⟩ := hy
  rw [← hs', List.append_assoc, List.append_assoc] at hs
  have := List.append_cancel_left hs
  simp at this
  exact hxy this.1

structure Ctx (pre : List String) (out : List SElem) (g : List (List String × Nat)) : Prop where
  /-- every ancestor group has been emitted -/
  anc : ∀ j, j < pre.length → (g.lookup (pre.take (j+1))).isSome = true
  /-- the parent's index is inside `out` -/
  idx : ∀ i, g.lookup pre = some i → i < out.length

/-- no group at or below `key` has been emitted -/
def Fresh (key : List String) (g : List (List String × Nat)) : Prop := ∀ k, key <+: k → g.lookup k = none

mutual
theorem loop_tree : (t : FTree) → t.WF → ∀ (pre : List String) (rs : List Rep), rs.length = pre.length →
    ∀ (rest : List Col) (out : List SElem) (g : List (List String × Nat)) (ch : Nat),
    Ctx pre out g → Fresh (pre ++ [t.name]) g →
    ∃ g', schemaLoop (colsAux pre rs t ++ rest) (out, g, ch) =
        schemaLoop rest (bumpOut (g.lookup pre) 1 out ++ flatT t, g', bumpCh (g.lookup pre) 1 ch) ∧
      ∀ k, ¬ (pre ++ [t.name]) <+: k → g'.lookup k = g.lookup k
  | .leaf n r ty, _, pre, rs, hlen, rest, out, g, ch, hc, hf => by
    refine ⟨g, ?_, fun _ _ => rfl⟩
    rw [colsAux, List.singleton_append, schemaLoop_cons _ _ _ (by simp [mkCol]),
      colStep_leaf _ pre n rfl out g ch hc.anc, addChild_eq, bumpOut_append _ _ _ _ hc.idx,
      leafElem_mkCol, flatT]
  | .group n r cs, hwf, pre, rs, hlen, rest, out, g, ch, hc, hf => by
    rw [FTree.WF] at hwf
    obtain ⟨hnd, hne, hsd, hwl⟩ := hwf
    simp only [FTree.name] at hf ⊢
    rw [colsAux]
    have hctx : Ctx (pre ++ [n]) (bumpOut (g.lookup pre) 1 out ++ [groupElem n r])
        ((pre ++ [n], out.length) :: g) := by
      refine ⟨anc_push n _ hc.anc, ?_⟩
      · intro i hi
        rw [List.lookup_cons_self] at hi
        cases hi
        simp [bumpOut_length]
    have hfresh : ∀ t ∈ cs, Fresh (pre ++ [n] ++ [t.name]) ((pre ++ [n], out.length) :: g) := by
      intro t _ k hk
      have hk' : (pre ++ [n]) <+: k := List.IsPrefix.trans (List.prefix_append _ _) hk
      rw [lookup_cons_ne']
      · exact hf k hk'
      · intro he
        rw [he] at hk
        exact not_prefix_of_length_le _ (Nat.le_refl _) hk
    obtain ⟨g', hrun, hg'⟩ := loop_forest cs hwl hsd (pre ++ [n]) (rs ++ [r]) (by simp [hlen]) rest _ _
      (bumpCh (g.lookup pre) 1 ch) hctx hfresh
    -- the group is emitted while its first column is processed
    obtain ⟨c₁, more, hcs⟩ := List.exists_cons_of_ne_nil (colsL_ne cs hwl hne (pre ++ [n]) (rs ++ [r]))
    obtain ⟨⟨m, ms, hp⟩, hreps⟩ := colsL_ok cs (pre ++ [n]) (rs ++ [r]) c₁ (hcs ▸ List.mem_cons_self)
    rw [List.append_assoc, List.singleton_append] at hp
    have hpne : c₁.path ≠ [] := by rw [hp]; simp
    have hrep : (c₁.reps[pre.length]?).getD .req = r := by
      rw [hreps pre.length (by simp [hlen]), ← hlen]; simp
    rw [hcs] at hrun ⊢
    refine ⟨g', ?_, ?_⟩
    · rw [List.cons_append, schemaLoop_cons _ _ _ hpne,
        colStep_emit c₁ pre n m ms hp hrep hnd out g ch hc.anc hc.idx (hf _ (List.prefix_refl _)),
        ← schemaLoop_cons _ _ _ hpne, ← List.cons_append, hrun, List.lookup_cons_self,
        ← bumpOut_length (g.lookup pre) 1 out, bumpOut_last _ _ (mt List.length_eq_zero_iff.1 hne), flatT]
      simp [bumpCh, incN, groupElem]
    · intro k hk
      rw [hg' k (fun t _ hpk => hk (List.IsPrefix.trans (List.prefix_append _ _) hpk)), lookup_cons_ne']
      intro he
      exact hk (he ▸ List.prefix_refl _)
theorem loop_forest : (ts : List FTree) → WFL ts → SiblingsDistinct ts →
    ∀ (pre : List String) (rs : List Rep), rs.length = pre.length →
    ∀ (rest : List Col) (out : List SElem) (g : List (List String × Nat)) (ch : Nat),
    Ctx pre out g → (∀ t ∈ ts, Fresh (pre ++ [t.name]) g) →
    ∃ g', schemaLoop (colsAuxL pre rs ts ++ rest) (out, g, ch) =
        schemaLoop rest (bumpOut (g.lookup pre) ts.length out ++ flattenT ts, g', bumpCh (g.lookup pre) ts.length ch) ∧
      ∀ k, (∀ t ∈ ts, ¬ (pre ++ [t.name]) <+: k) → g'.lookup k = g.lookup k
  | [], _, _, pre, rs, _, rest, out, g, ch, _, _ => by
    refine ⟨g, ?_, fun _ _ => rfl⟩
    rw [colsAuxL, flattenT, List.length_nil]
    cases g.lookup pre <;> simp [bumpCh, bumpOut]
  | t :: ts, hwf, hsd, pre, rs, hlen, rest, out, g, ch, hc, hf => by
    rw [WFL] at hwf
    obtain ⟨hwt, hwts⟩ := hwf
    have hsd' : t.name ∉ ts.map FTree.name ∧ SiblingsDistinct ts := List.nodup_cons.mp hsd
    obtain ⟨g₁, h₁, hg₁⟩ := loop_tree t hwt pre rs hlen (colsAuxL pre rs ts ++ rest) out g ch hc
      (hf t List.mem_cons_self)
    have hpre : g₁.lookup pre = g.lookup pre := hg₁ pre (not_prefix_of_length_le _ (Nat.le_refl _))
    have hctx : Ctx pre (bumpOut (g.lookup pre) 1 out ++ flatT t) g₁ := by
      constructor
      · intro j hj
        rw [hg₁ _ (not_prefix_of_length_le _ (List.length_take_le' (j+1) pre))]
        exact hc.anc j hj
      · intro i hi
        rw [hpre] at hi
        have := hc.idx i hi
        simp [bumpOut_length]
        omega
    have hfresh : ∀ t' ∈ ts, Fresh (pre ++ [t'.name]) g₁ := by
      intro t' ht' k hk
      have hne : t'.name ≠ t.name := by
        intro he
        exact hsd'.1 (List.mem_map.mpr ⟨t', ht', he⟩)
      rw [hg₁ k (prefix_ne pre hne hk)]
      exact hf t' (List.mem_cons_of_mem _ ht') k hk
    obtain ⟨g₂, h₂, hg₂⟩ := loop_forest ts hwts hsd'.2 pre rs hlen rest _ g₁ (bumpCh (g.lookup pre) 1 ch) hctx hfresh
    refine ⟨g₂, ?_, ?_⟩
    · rw [colsAuxL, List.append_assoc, h₁, h₂, hpre, bumpOut_append _ _ _ _ (by
          intro i hi
          rw [bumpOut_length]
          exact hc.idx i hi),
        bumpOut_add, bumpCh_add, flattenT, List.append_assoc, List.length_cons, Nat.add_comm]
    · intro k hk
      rw [hg₂ k (fun t' ht' => hk t' (List.mem_cons_of_mem _ ht')), hg₁ k (hk t List.mem_cons_self)]
end

end SchemaTree
open SchemaTree

/-- **Go's `schema()` produces the pre-order flattening with direct-children counts**, for every
forest of any depth (same-named groups under different parents included). -/
theorem schemaElems_tree (ts : List FTree) (hwf : ∀ t ∈ ts, t.WF) (hsd : SiblingsDistinct ts) :
    schemaElems (colsOf ts) = some ({ name := "root", numChildren := some ts.length } :: flattenT ts) := by
  obtain ⟨g', h, _⟩ := loop_forest ts ((WFL_iff ts).mpr hwf) hsd [] [] rfl [] [{ name := "root" }] [] 0
    ⟨fun j hj => by simp at hj, fun i hi => by simp at hi⟩ (fun t _ k _ => rfl)
  rw [List.append_nil] at h
  unfold schemaElems colsOf
  rw [h, schemaLoop]
  simp [bumpOut, bumpCh]

/-- what `decSElem` returns for the thrift form of `e`: its i32 fields by id, and its name -/
def SElem.toD (e : SElem) : SElemD :=
  ((match e.ty with | some t => [(1, (t : Int))] | none => []) ++
   (match e.rep with | some r => [(3, (r : Int))] | none => []) ++
   (match e.numChildren with | some n => [(5, (n : Int))] | none => []) ++
   (match e.converted with | some c => [(6, (c : Int))] | none => []), strBytes e.name)

theorem decSElem_toT (e : SElem) : decSElem e.toT = some e.toD := by
  obtain ⟨name, ty, rep, nc, conv⟩ := e
  cases ty <;> cases rep <;> cases nc <;> cases conv <;> rfl

theorem mapM_decSElem_of (f : SElem → SElemD) (h : ∀ e, decSElem e.toT = some (f e)) (se : List SElem) :
    (se.map SElem.toT).mapM decSElem = some (se.map f) := by
  induction se with
  | nil => rfl
  | cons e se ih => simp only [List.map_cons, List.mapM_cons, h, ih, bind, Option.bind, pure]

theorem mapM_decSElem (se : List SElem) : (se.map SElem.toT).mapM decSElem = some (se.map SElem.toD) :=
  mapM_decSElem_of _ decSElem_toT se

namespace SchemaTree

theorem map_code_req (l : List Rep) (h : ∀ x ∈ l, x = .req) : l.map (fun r => (r.code : Int)) = List.replicate l.length 0 := by
  induction l with
  | nil => rfl
  | cons a l ih =>
    rw [List.map_cons, ih (fun x hx => h x (List.mem_cons_of_mem _ hx)), h a List.mem_cons_self]
    rfl

theorem expectedLeaf_mkCol (pre : List String) (rs : List Rep) (hlen : rs.length = pre.length) (n : String) (r : Rep) (ty : PType) :
    expectedLeaf (mkCol pre rs n r ty) =
      { path := pre.map strBytes ++ [strBytes n], reps := rs.map (fun r => (r.code : Int)) ++ [(r.code : Int)],
        ty := ty.phys, conv := ty.converted.map fun n => (n : Int) } := by
  unfold expectedLeaf Col.isRequired mkCol
  simp only []
  by_cases h : ((rs ++ [r]).all (· == .req)) = true
  · rw [if_pos h, if_pos (by decide)]
    have hall := (all_req_iff _).mp h
    have := map_code_req (rs ++ [r]) hall
    rw [List.map_append] at this
    simp only [List.map_cons, List.map_nil] at this
    rw [this]
    simp [hlen]
  · rw [if_neg h, if_neg h]
    simp

/-- what the walker's look-ups read from the element of a leaf … -/
theorem leaf_lookup (nm : String) (t r : Nat) (conv : Option Nat) :
    let ints := (({ name := nm, ty := some t, rep := some r, converted := conv } : SElem).toD).1
    ints.lookup 3 = some (r : Int) ∧ ints.lookup 5 = none ∧ ints.lookup 1 = some (t : Int) ∧
      ints.lookup 6 = conv.map fun n => (n : Int) :=
  ⟨rfl, by cases conv <;> rfl, rfl, by cases conv <;> rfl⟩

/-- … and of a group -/
theorem group_lookup (nm : String) (r k : Nat) :
    let ints := (({ name := nm, rep := some r, numChildren := some k } : SElem).toD).1
    ints.lookup 3 = some (r : Int) ∧ ints.lookup 5 = some (k : Int) ∧ ints.lookup 1 = none :=
  ⟨rfl, rfl, rfl⟩

mutual
theorem walk_tree : (t : FTree) → t.WF → ∀ (pre : List String) (rs : List Rep), rs.length = pre.length →
    ∀ (f n : Nat) (restE : List SElemD) (ls2 : List Leaf) (rest' : List SElemD),
    (flatT t).length ≤ f →
    walkSchema f n restE (pre.map strBytes) (rs.map fun r => (r.code : Int)) = .ok (ls2, rest') →
    walkSchema (f+1) (n+1) ((flatT t).map SElem.toD ++ restE) (pre.map strBytes) (rs.map fun r => (r.code : Int)) =
      .ok ((colsAux pre rs t).map expectedLeaf ++ ls2, rest')
  | .leaf nm r ty, _, pre, rs, hlen, f, n, restE, ls2, rest', _, hrest => by
    rw [flatT, colsAux, List.map_singleton, List.map_singleton, List.singleton_append, expectedLeaf_mkCol pre rs hlen]
    rw [walkSchema]
    have ⟨h3, h5, h1, h6⟩ := leaf_lookup nm ty.phys r.code ty.converted
    simp only [h3, h5, h1, h6, hrest, bind, Except.bind, pure, Except.pure]
    rfl
  | .group nm r cs, hwf, pre, rs, hlen, f, n, restE, ls2, rest', hf, hrest => by
    rw [FTree.WF] at hwf
    obtain ⟨_, hne, _, hwl⟩ := hwf
    rw [flatT, colsAux, List.map_cons, List.cons_append]
    rw [flatT, List.length_cons] at hf
    have hch := walk_forest cs hwl (pre ++ [nm]) (rs ++ [r]) (by simp [hlen]) f
      restE (by omega)
    rw [walkSchema]
    have hpos : ¬ ((cs.length : Int) ≤ 0) := by
      cases cs with
      | nil => exact absurd rfl hne
      | cons _ _ => simp
    simp only [List.map_append, List.map_cons, List.map_nil] at hch
    have ⟨h3, h5, h1⟩ := group_lookup nm r.code cs.length
    have hn : (({ name := nm, rep := some r.code, numChildren := some cs.length } : SElem).toD).2 = strBytes nm := rfl
    simp only [h3, h5, h1, hn, if_neg hpos, Int.toNat_natCast, hch, hrest, bind, Except.bind, pure, Except.pure]
theorem walk_forest : (ts : List FTree) → WFL ts → ∀ (pre : List String) (rs : List Rep), rs.length = pre.length →
    ∀ (fuel : Nat) (restE : List SElemD), (flattenT ts).length + 1 ≤ fuel →
    walkSchema fuel ts.length ((flattenT ts).map SElem.toD ++ restE) (pre.map strBytes) (rs.map fun r => (r.code : Int)) =
      .ok ((colsAuxL pre rs ts).map expectedLeaf, restE)
  | [], _, pre, rs, _, fuel, restE, hf => by
    cases fuel with
    | zero => omega
    | succ f => rw [flattenT, colsAuxL]; rfl
  | t :: ts, hwf, pre, rs, hlen, fuel, restE, hf => by
    rw [WFL] at hwf
    rw [flattenT, List.length_append] at hf
    cases fuel with
    | zero => omega
    | succ f =>
      have hpos : 1 ≤ (flatT t).length := by cases t <;> simp [flatT]
      have h2 := walk_forest ts hwf.2 pre rs hlen f restE (by omega)
      have h1 := walk_tree t hwf.1 pre rs hlen f ts.length _ _ _ (by omega) h2
      rw [flattenT, colsAuxL, List.map_append, List.map_append, List.append_assoc, List.length_cons]
      exact h1
end

end SchemaTree

/-- the independent walker accepts the flattening and returns the expected leaves, in column order -/
theorem schemaLeaves_tree (ts : List FTree) (hwf : ∀ t ∈ ts, t.WF) :
    schemaLeaves ((({ name := "root", numChildren := some ts.length } : SElem) :: flattenT ts).map SElem.toD) =
      .ok ((colsOf ts).map expectedLeaf) := by
  have hw := walk_forest ts ((WFL_iff ts).mpr hwf) [] [] rfl ((flattenT ts).length + 1 + 1) [] (by omega)
  rw [List.append_nil] at hw
  rw [List.map_cons]
  unfold schemaLeaves
  have h5 : List.lookup 5 (({ name := "root", numChildren := some ts.length } : SElem).toD).1 = some (ts.length : Int) := rfl
  have hneg : ¬ ((ts.length : Int) < 0) := by omega
  simp only [h5, if_neg hneg, Int.toNat_natCast, List.length_cons, List.length_map, bind, Except.bind]
  simp only [List.map_nil] at hw
  rw [hw]
  simp [colsOf, pure, Except.pure]

/-- **C02, schema clause**: for every well-formed struct shape the footer schema Go writes is a
well-formed pre-order tree whose leaves are exactly the columns, in order, with their path,
physical / converted type and the repetition of every path element. -/
theorem schema_valid (ts : List FTree) (hwf : ∀ t ∈ ts, t.WF) (hsd : SiblingsDistinct ts) :
    ∃ se, schemaElems (colsOf ts) = some se ∧
      se = { name := "root", numChildren := some ts.length } :: flattenT ts ∧
      (se.map SElem.toT).mapM decSElem = some (se.map SElem.toD) ∧
      schemaLeaves (se.map SElem.toD) = .ok ((colsOf ts).map expectedLeaf) :=
  ⟨_, schemaElems_tree ts hwf hsd, rfl, mapM_decSElem _, schemaLeaves_tree ts hwf⟩

section examples

/-- same-named groups under different parents: `m{in{a,b},c}, n{in{a}}` (`m` optional, `m.in`
repeated, `n.in` required) -/
def exForest : List FTree :=
  [.group "m" .opt [.group "in" .rpt [.leaf "a" .req .i32, .leaf "b" .opt .str], .leaf "c" .req .u64],
   .group "n" .req [.group "in" .req [.leaf "a" .req .f64]]]

example : colsOf exForest =
    [⟨["m", "in", "a"], [.opt, .rpt, .req], .i32⟩, ⟨["m", "in", "b"], [.opt, .rpt, .opt], .str⟩,
     ⟨["m", "c"], [.opt, .req], .u64⟩, ⟨["n", "in", "a"], [.req], .f64⟩] := rfl

/-- the two `in` groups stay apart, each with its own direct-children count -/
example : schemaElems (colsOf exForest) = some
    [{ name := "root", numChildren := some 2 },
     { name := "m", rep := some 1, numChildren := some 2 },
     { name := "in", rep := some 2, numChildren := some 2 },
     { name := "a", ty := some 1, rep := some 0 },
     { name := "b", ty := some 6, rep := some 1 },
     { name := "c", ty := some 2, rep := some 0, converted := some 14 },
     { name := "n", rep := some 0, numChildren := some 1 },
     { name := "in", rep := some 0, numChildren := some 1 },
     { name := "a", ty := some 5, rep := some 0 }] :=
  schemaElems_tree exForest (by decide +kernel) (by decide +kernel)

example : ∃ se, schemaElems (colsOf exForest) = some se ∧
    schemaLeaves (se.map SElem.toD) = .ok
      [{ path := [strBytes "m", strBytes "in", strBytes "a"], reps := [1, 2, 0], ty := 1, conv := none },
       { path := [strBytes "m", strBytes "in", strBytes "b"], reps := [1, 2, 1], ty := 6, conv := none },
       { path := [strBytes "m", strBytes "c"], reps := [1, 0], ty := 2, conv := some 14 },
       { path := [strBytes "n", strBytes "in", strBytes "a"], reps := [0, 0, 0], ty := 5, conv := none }] :=
  ⟨_, schemaElems_tree exForest (by decide +kernel) (by decide +kernel), schemaLeaves_tree exForest (by decide +kernel)⟩

/-- three levels of required structs: the column is a `RequiredField` (`Types = [req]`), the groups
are still emitted as required -/
def exDeep : List FTree :=
  [.group "x" .req [.group "y" .req [.group "z" .req [.leaf "v" .req .bool], .leaf "w" .req .i64]]]

example : colsOf exDeep = [⟨["x", "y", "z", "v"], [.req], .bool⟩, ⟨["x", "y", "w"], [.req], .i64⟩] := rfl

example : schemaElems (colsOf exDeep) = some
    [{ name := "root", numChildren := some 1 },
     { name := "x", rep := some 0, numChildren := some 1 },
     { name := "y", rep := some 0, numChildren := some 2 },
     { name := "z", rep := some 0, numChildren := some 1 },
     { name := "v", ty := some 0, rep := some 0 },
     { name := "w", ty := some 2, rep := some 0 }] :=
  schemaElems_tree exDeep (by decide) (by decide)

example : (colsOf exDeep).map expectedLeaf =
    [{ path := [strBytes "x", strBytes "y", strBytes "z", strBytes "v"], reps := [0, 0, 0, 0], ty := 0, conv := none },
     { path := [strBytes "x", strBytes "y", strBytes "w"], reps := [0, 0, 0], ty := 2, conv := none }] := rfl

/-- **Why sibling names must be distinct.**  Two sibling structs named `g` declare exactly the
columns of one struct `g` with both fields (`schema()` only sees the columns), so the footer has
*one* group `g` with two children and a root with one child: not the flattening of the shape. -/
def exBad : List FTree := [.group "g" .req [.leaf "a" .req .i32], .group "g" .req [.leaf "b" .req .i32]]
def exMerged : List FTree := [.group "g" .req [.leaf "a" .req .i32, .leaf "b" .req .i32]]

example : ¬ SiblingsDistinct exBad := by decide
example : ∀ t ∈ exBad, t.WF := by decide
example : colsOf exBad = colsOf exMerged := rfl
example : schemaElems (colsOf exBad) = some
    [{ name := "root", numChildren := some 1 },
     { name := "g", rep := some 0, numChildren := some 2 },
     { name := "a", ty := some 1, rep := some 0 },
     { name := "b", ty := some 1, rep := some 0 }] :=
  schemaElems_tree exMerged (by decide) (by decide)
example : ({ name := "root", numChildren := some exBad.length } :: flattenT exBad : List SElem) =
    [{ name := "root", numChildren := some 2 },
     { name := "g", rep := some 0, numChildren := some 1 },
     { name := "a", ty := some 1, rep := some 0 },
     { name := "g", rep := some 0, numChildren := some 1 },
     { name := "b", ty := some 1, rep := some 0 }] := by decide
example : schemaElems (colsOf exBad) ≠ some ({ name := "root", numChildren := some exBad.length } :: flattenT exBad) := by
  rw [show colsOf exBad = colsOf exMerged from rfl, schemaElems_tree exMerged (by decide) (by decide)]
  decide

/-- Same-named siblings that are *not adjacent*: the second `g` is found in the map, so `b` is
appended after `h` while the count goes to the first `g` — the footer then reads `g{a, h}, b`:
the leaves no longer match the column chunks (`h` and `g.b`). -/
def exSplit : List FTree :=
  [.group "g" .req [.leaf "a" .req .i32], .leaf "h" .req .i32, .group "g" .req [.leaf "b" .req .i32]]

example : colsOf exSplit = [⟨["g", "a"], [.req], .i32⟩, ⟨["h"], [.req], .i32⟩, ⟨["g", "b"], [.req], .i32⟩] := rfl

example : schemaElems (colsOf exSplit) = some
    [{ name := "root", numChildren := some 2 },
     { name := "g", rep := some 0, numChildren := some 2 },
     { name := "a", ty := some 1, rep := some 0 },
     { name := "h", ty := some 1, rep := some 0 },
     { name := "b", ty := some 1, rep := some 0 }] := by
  have hg : lastPart "g" = "g" := lastPart_of_noDot (by decide)
  rw [show colsOf exSplit = [⟨["g", "a"], [.req], .i32⟩, ⟨["h"], [.req], .i32⟩, ⟨["g", "b"], [.req], .i32⟩] from rfl]
  simp (config := { decide := true }) [schemaElems, schemaLoop, schemaGroups, addChild, hg, Col.leafRep,
    PType.phys, PType.converted, Rep.code, List.lookup, List.modify, List.modifyTailIdx]

example : schemaLeaves (([{ name := "root", numChildren := some 2 },
     { name := "g", rep := some 0, numChildren := some 2 },
     { name := "a", ty := some 1, rep := some 0 },
     { name := "h", ty := some 1, rep := some 0 },
     { name := "b", ty := some 1, rep := some 0 }] : List SElem).map SElem.toD) = .ok
   [{ path := [strBytes "g", strBytes "a"], reps := [0, 0], ty := 1, conv := none },
    { path := [strBytes "g", strBytes "h"], reps := [0, 0], ty := 1, conv := none },
    { path := [strBytes "b"], reps := [0], ty := 1, conv := none }] := rfl

end examples

end PQ
