import PQ.Lemmas.ForeignRT
/-!
# C10: the reader over a source that starts failing, on every file of the spec writer

`outLoopF` / `readOutcomeF` are `outLoop` / `readOutcome` (ReadOutcome.lean) over `RState.nextF` / `openReaderF`
(Model/Fault.lean): the source fails during the source-touching API call number `k`.
`readOutcomeF_specWrite`: exactly the records of the row groups before the failing load are delivered.
-/
namespace PQ
open PQ.Thrift

/-- `outLoop` (ReadOutcome.lean) over a source that fails during the source-touching call number `k` -/
def outLoopF : Nat → RState → Nat → List Row → Outcome
  | 0, st, _, acc => if st.err then .refused acc else .accepted acc
  | fuel+1, st, k, acc =>
    match st.nextF k with
    | (.error _, _) => .panicked
    | (.ok (false, st), _) => if st.err then .refused acc else .accepted acc
    | (.ok (true, st), k) =>
      if st.err then outLoopF fuel st k acc else
      if !st.fieldsSet ∧ !st.cols.isEmpty then .panicked else
      match scanAllEntries st.cols st.bufs with
      | none => .panicked
      | some (row, bufs) => outLoopF fuel { st with bufs := bufs } k (acc ++ [row])

def readOutcomeF (cols : List Col) (dc : Decomp) (file : Bytes) (k : Nat) : Outcome :=
  match openReaderF cols dc file k with
  | (.error .err, _) => .refusedAtOpen
  | (.error .panic, _) => .panicked
  | (.ok st, k) => outLoopF (st.rows + 3).toNat st k []

theorem nextF_fault (st : RState) (h : st.touches = true) : st.nextF 0 = (.ok (false, { st with err := true }), 0) :=
  PQ.C10.nextF_fault st h

theorem nextF_succ (st : RState) (k : Nat) (h : st.touches = true) : st.nextF (k + 1) = (st.next, k) := by
  simp only [RState.nextF, h, if_true]

theorem nextF_add (st : RState) (k : Nat) : st.nextF (k + st.touches.toNat) = (st.next, k) := by
  cases h : st.touches
  · exact PQ.C10.nextF_not_touching st k h
  · exact nextF_succ st k h

theorem outLoopF_fault_now (fuel : Nat) (st : RState) (acc : List Row) (h : st.touches = true) :
    outLoopF (fuel + 1) st 0 acc = .refused acc := by
  rw [outLoopF, nextF_fault st h]
  simp

theorem openReaderF_succ (cols : List Col) (dc : Decomp) (file : Bytes) (k : Nat) :
    openReaderF cols dc file (k + 1) = (openReader cols dc file, k) := rfl

theorem readOutcomeF_open (cols : List Col) (dc : Decomp) (file : Bytes) : readOutcomeF cols dc file 0 = .refusedAtOpen := by
  simp only [readOutcomeF, openReaderF]

theorem outLoopF_step (fuel : Nat) (st st' : RState) (k k' : Nat) (acc : List Row) (row : Row) (bufs : List ColBuf)
    (hn : st.nextF k = (.ok (true, st'), k')) (he : st'.err = false) (hf : st'.fieldsSet = true)
    (hs : scanAllEntries st'.cols st'.bufs = some (row, bufs)) :
    outLoopF (fuel + 1) st k acc = outLoopF fuel { st' with bufs := bufs } k' (acc ++ [row]) := by
  rw [outLoopF]
  simp only [hn, he, hf, hs, Bool.false_eq_true, if_false, Bool.not_true, false_and]

/-- along a run that delivers rows, the budget goes down by the number of `Next` calls that touch the source -/
theorem Delivers.outLoopF {st st' : RState} {rows : List Row} {t : Nat} (h : Delivers st rows t st') (fuel k : Nat)
    (acc : List Row) : outLoopF (fuel + rows.length) st (k + t) acc = outLoopF fuel st' k (acc ++ rows) := by
  induction h generalizing acc with
  | nil => simp
  | @cons st st' _ _ _ _ t t' hn he hf hs _ ht ih =>
    have hnf : st.nextF (k + t') = (.ok (true, st'), k + t) := by
      rw [ht, Nat.add_left_comm, Nat.add_comm, nextF_add, hn]
    rw [List.length_cons, ← Nat.add_assoc, outLoopF_step _ _ _ _ _ acc _ _ hnf he hf hs, ih]
    simp

theorem loadsOf_eq_length : ∀ (gs : List GRG), (∀ g ∈ gs, g.recs ≠ []) → loadsOf gs = gs.length := fun gs h => by
  rw [loadsOf, List.filter_eq_self.2 fun g hg => by simpa using h g hg]

/-- **The `Next`/`Scan` loop over a source that fails at the load number `loadsOf gs + 1` from here.**
`rs`: the records of the loaded row group not yet delivered; `gs`: the row groups, in order, whose loads still
succeed; `T`: the row groups after them (they hold records, so `Next` does touch the source then). -/
theorem outLoopF_good_then_fault (dc : Decomp) (cols : List Col) (N : Int) (file : Bytes) (hres : ColsResolve cols)
    (T : List GRG) (hT : ∀ g ∈ T, g.Listed cols) (hTpos : 0 < recsIn T) (gs : List GRG) (hgs : ∀ g ∈ gs, g.OK dc cols)
    (rs : List Rec) (hrs : ∀ r ∈ rs, ∀ x ∈ cols.zipIdx, RecRd x.1 (r.getD x.2 [])) (pos : Nat) (post : Bytes)
    (cu rc rn : Int) (hl : file.drop pos = dataOf (gs ++ T) ++ post) (hrn : rn = rc + (rs.length : Nat))
    (hN : cu + (rs.length : Nat) + (recsIn gs : Nat) < N) (fuel : Nat) (hf : rs.length + recsIn gs < fuel)
    (acc : List Row) :
    outLoopF fuel (readerAt dc cols N file pos (gs ++ T) cu rc rn (bufsOf cols rs) true) (loadsOf gs) acc =
      .refused (acc ++ (rs ++ gs.flatMap (·.recs)).map (rowOf cols.length)) := by
  obtain ⟨st', hb, hd⟩ := delivers_loaded dc cols N file hres T hT gs hgs rs hrs pos post cu rc rn hl hrn (by omega)
  have htouch : st'.touches = true := by
    obtain ⟨E, pos, post, rc, rn, bufs, fs, rfl, _, _, h3⟩ := hb
    refine touches_boundary _ rfl hN h3 ?_
    cases T with
    | nil => simp [recsIn] at hTpos
    | cons _ _ => simp [readerAt]
  obtain ⟨f, rfl⟩ : ∃ f, fuel = (f + 1) + ((rs ++ gs.flatMap (·.recs)).map (rowOf cols.length)).length := by
    refine ⟨fuel - (rs.length + recsIn gs) - 1, ?_⟩
    rw [List.length_map, List.length_append, List.length_flatMap]
    simp only [recsIn] at hf ⊢
    omega
  have := hd.outLoopF (f + 1) 0 acc
  rw [Nat.zero_add] at this
  rw [this, outLoopF_fault_now _ _ _ htouch]

/-- **The whole read over a failing source, any chunk layout**: all row groups in order; `b :: bs` are loaded by
the constructor and by the `Next` calls that succeed (one per row group of `bs` that holds records), the load of
the first row group of `T` that holds records is the call during which the source fails. -/
theorem readOutcomeF_gen (dc : Decomp) (cols : List Col) (file : Bytes) (hres : ColsResolve cols) (b : GRG) (bs T : List GRG)
    (hB : ∀ g ∈ b :: bs, g.OK dc cols) (hT : ∀ g ∈ T, g.Listed cols) (hTpos : 0 < recsIn T)
    (f : FMD) (hfr : Framed (dataOf (b :: bs ++ T)) f file) (hrg : f.rowGroups = (b :: bs ++ T).map (·.rgm))
    (hN : f.numRows = ((recsIn (b :: bs ++ T) : Nat) : Int)) :
    readOutcomeF cols dc file (loadsOf bs + 1) = .refused (((b :: bs).flatMap (·.recs)).map (rowOf cols.length)) := by
  obtain ⟨hb, hbs⟩ := List.forall_mem_cons.1 hB
  obtain ⟨hopen, post, hl⟩ := openReader_cons dc cols file hres b (bs ++ T) hb
    (List.forall_mem_append.2 ⟨fun x hx => (hbs x hx).toListed, hT⟩) f hfr hrg
  have hsum : recsIn (b :: bs ++ T) = b.recs.length + recsIn bs + recsIn T := by
    simp [recsIn]; omega
  unfold readOutcomeF
  rw [openReaderF_succ, hopen]
  show outLoopF ((f.numRows + 3).toNat) (readerAt dc cols f.numRows file _ (bs ++ T) 0 0 _ _ true) (loadsOf bs) [] = _
  rw [outLoopF_good_then_fault dc cols _ file hres T hT hTpos bs hbs b.recs hb.hrecs _ post 0 0 _ hl
    (by simp) (by rw [hN, hsum]; simp only [Int.natCast_add]; omega) _ (by rw [hN, hsum]; omega)]
  simp

theorem sum_pos_of_mem {l : List Nat} {a : Nat} (h : a ∈ l) (ha : 0 < a) : 0 < l.sum := by
  induction l with
  | nil => simp at h
  | cons x xs ih =>
    simp only [List.sum_cons]
    rcases List.mem_cons.mp h with rfl | h
    · omega
    · have := ih h; omega

/-- … when every row group holds records: the source failing during the constructor (`k = 0`) or during the `Next`
that loads row group number `k` -/
theorem readOutcomeF_split (dc : Decomp) (cols : List Col) (file : Bytes) (hres : ColsResolve cols) (gs : List GRG)
    (hok : ∀ g ∈ gs, g.OK dc cols) (hne : ∀ g ∈ gs, g.recs ≠ []) (f : FMD) (hfr : Framed (dataOf gs) f file)
    (hrg : f.rowGroups = gs.map (·.rgm)) (hN : f.numRows = ((recsIn gs : Nat) : Int)) (k : Nat) (hk : k < gs.length) :
    readOutcomeF cols dc file k =
      if k = 0 then .refusedAtOpen else .refused (((gs.take k).flatMap (·.recs)).map (rowOf cols.length)) := by
  cases k with
  | zero => exact readOutcomeF_open cols dc file
  | succ k' =>
    cases gs with
    | nil => simp at hk
    | cons b gs' =>
      have hsplit : b :: gs' = b :: gs'.take k' ++ gs'.drop k' := by simp
      have hk' : k' < gs'.length := by simpa using hk
      have hTpos : 0 < recsIn (gs'.drop k') := by
        have := List.length_pos_iff.mpr (hne _ (List.mem_cons_of_mem _ (List.getElem_mem hk')))
        rw [List.drop_eq_getElem_cons hk', recsIn_cons]
        omega
      rw [hsplit] at hfr hrg hN
      have := readOutcomeF_gen dc cols file hres b (gs'.take k') (gs'.drop k')
        (List.forall_mem_cons.2 ⟨hok _ List.mem_cons_self, fun g hg => hok g (List.mem_cons_of_mem _ (List.mem_of_mem_take hg))⟩)
        (fun g hg => (hok g (List.mem_cons_of_mem _ (List.mem_of_mem_drop hg))).toListed) hTpos f hfr hrg hN
      rw [loadsOf_eq_length _ (fun g hg => hne g (List.mem_cons_of_mem _ (List.mem_of_mem_take hg))), List.length_take,
        Nat.min_eq_left (Nat.le_of_lt hk')] at this
      rw [this, if_neg (Nat.succ_ne_zero k'), List.take_succ_cons]

/-- a source that fails during the constructor (k = 0) or during the `Next` call that loads row group `k`:
exactly the records of the row groups before it are delivered, then `Next` is false with the error set;
never a panic, never acceptance -/
theorem readOutcomeF_specWrite (cfg : SWCfg) (compress : Nat → Bytes → Bytes) (dc : Decomp) (cs : Choices)
    (rowGroups : List (List Rec)) (k : Nat)
    (hres : ColsResolve cfg.cols)
    (hcodecs : cfg.codecs.length = cfg.cols.length ∧ ∀ c ∈ cfg.codecs, c ≤ 2)
    (hdc : ∀ raw, dc.snappy (compress 1 raw) = some raw ∧ dc.gzip (compress 2 raw) = some raw)
    (hrecs : ∀ rg ∈ rowGroups, ∀ r ∈ rg, ∀ x ∈ cfg.cols.zipIdx, RecColOK x.1 (r.getD x.2 []))
    (hdef : ∀ c ∈ cfg.cols, c.maxDef ≤ 15)
    (hlen : ∀ rg ∈ rowGroups, ∀ x ∈ cfg.cols.zipIdx, (rg.flatMap (·.getD x.2 [])).length + 8 ≤ 2 ^ 28)
    (hsize : (specWrite cfg compress none cs rowGroups).length < 2 ^ 32)
    (hne : ∀ rg ∈ rowGroups, rg ≠ [])
    (hk : k < rowGroups.length) :
    readOutcomeF cfg.cols dc (specWrite cfg compress none cs rowGroups) k =
      if k = 0 then .refusedAtOpen
      else .refused ((rowGroups.take k).flatten.map (fun r => (List.range cfg.cols.length).map fun i => r.getD i [])) := by
  obtain ⟨sd, _, hfr⟩ := specWrite_framed cfg compress none cs rowGroups hsize
  have hgr := swGroups_recs cfg compress none rowGroups 0 cs 4
  rw [readOutcomeF_split dc cfg.cols _ hres _ (swGroups_ok_none ⟨hcodecs, hdc, hrecs, hdef, hlen⟩ cs)
    (fun g hg => hne _ (hgr ▸ List.mem_map_of_mem (f := (·.recs)) hg)) _ hfr rfl (by rw [recsIn_swGroups]) k
    (by rw [← List.length_map (f := (·.recs)), hgr]; exact hk), List.flatMap_def, List.map_take, hgr]
  rfl

/-! ## Non-vacuity: two columns (snappy / gzip paths), three row groups, the source fails at the load of the third -/
section NonVacuity

private def ftCols : List Col :=
  [{ path := ["a"], reps := [.req], ty := .i32 }, { path := ["b"], reps := [.rpt], ty := .i32 }]
private def ftCfg : SWCfg := { cols := ftCols, codecs := [1, 2], withStats := true, withExtras := true, padv := 3 }
private def ftDc : Decomp := { snappy := some, gzip := some }
private def ftRec (k : Nat) : Rec :=
  [[{ rep := 0, dl := 0, val := some [k, 0, 0, 0] }],
   if k % 2 = 0 then [{ rep := 0, dl := 1, val := some [k, 0, 0, 0] }, { rep := 1, dl := 1, val := some [k, 1, 0, 0] }]
   else [{ rep := 0, dl := 0, val := none }]]
private def ftGroups : List (List Rec) := [[ftRec 1, ftRec 2], [ftRec 3], [ftRec 4]]
private def ftCs : Choices := [1, 0, 1, 1, 0, 2, 1, 5, 3, 0, 0, 1, 7, 2, 8, 1]

private theorem ft_recOK (k : Nat) (hk : k < 5) : ∀ x ∈ ftCols.zipIdx, RecColOK x.1 ((ftRec k).getD x.2 []) :=
  (by decide : ∀ k < 5, ∀ x ∈ ftCols.zipIdx, RecColOK x.1 ((ftRec k).getD x.2 [])) k hk

private theorem ft_groups : ∀ rg ∈ ftGroups, rg = [ftRec 1, ftRec 2] ∨ rg = [ftRec 3] ∨ rg = [ftRec 4] := by
  intro rg hrg; simpa [ftGroups] using hrg

/-- whatever is evaluated of this file, in one declaration, so that the kernel writes the file once: its size, and the
read with no failing call left (`k = 3` = number of row groups) -/
private theorem ft_eval : (specWrite ftCfg (fun _ b => b) none ftCs ftGroups).length < 2 ^ 32 ∧
    (readOutcomeF ftCols ftDc (specWrite ftCfg (fun _ b => b) none ftCs ftGroups) 3 ==
      .accepted [ftRec 1, ftRec 2, ftRec 3, ftRec 4]) = true := by decide +kernel

/-- the theorem for this file, all hypotheses discharged once (the file is evaluated once, for `hsize`): every
failing call index within the file -/
private theorem ft_out (k : Nat) (hk : k < 3) :
    readOutcomeF ftCols ftDc (specWrite ftCfg (fun _ b => b) none ftCs ftGroups) k =
      if k = 0 then .refusedAtOpen else .refused ((ftGroups.take k).flatten.map (rowOf 2)) :=
  readOutcomeF_specWrite ftCfg (fun _ b => b) ftDc ftCs ftGroups k
    (colsResolve_of_check _ (by decide +kernel)) (by decide) (fun raw => ⟨rfl, rfl⟩)
    (by decide) (by decide) (by decide) ft_eval.1 (by decide) hk

/-- the theorem applied: the source fails during the `Next` call that loads the
third row group (`k = 2`); the three records of the first two row groups are delivered, then the error -/
example : readOutcomeF ftCols ftDc (specWrite ftCfg (fun _ b => b) none ftCs ftGroups) 2 =
    .refused [ftRec 1, ftRec 2, ftRec 3] := by
  rw [ft_out 2 (by decide)]; rfl

/-- the same, and the other failing calls, as the derived `BEq` compares them -/
example : (readOutcomeF ftCols ftDc (specWrite ftCfg (fun _ b => b) none ftCs ftGroups) 0 == .refusedAtOpen) = true := by
  rw [ft_out 0 (by decide)]; rfl
example : (readOutcomeF ftCols ftDc (specWrite ftCfg (fun _ b => b) none ftCs ftGroups) 1 ==
    .refused [ftRec 1, ftRec 2]) = true := by rw [ft_out 1 (by decide)]; decide
example : (readOutcomeF ftCols ftDc (specWrite ftCfg (fun _ b => b) none ftCs ftGroups) 2 ==
    .refused [ftRec 1, ftRec 2, ftRec 3]) = true := by rw [ft_out 2 (by decide)]; decide
/-- no failing call left within the file (`k = 3` = number of row groups): the read is accepted (by kernel
evaluation of the writer and reader models) -/
example : (readOutcomeF ftCols ftDc (specWrite ftCfg (fun _ b => b) none ftCs ftGroups) 3 ==
    .accepted [ftRec 1, ftRec 2, ftRec 3, ftRec 4]) = true := ft_eval.2

end NonVacuity

end PQ
