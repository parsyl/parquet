import PQ.Model.Writer
import PQ.Lemmas.Basic
/-!
# The writer state machine (`PQ/Model/Writer.lean`) against its specification

`stateOf cols max codec pend done docs` is the state with `pend` pending and the batches `done` written; every
reachable state is `stateOf … (pendingOf ops) (batches ops) (addCount ops)`.  `run_stateOf`, the last theorem of the
file, proves it, together with what the run wrote, from an arbitrary `stateOf`, so that the induction on the history
goes through.  In front of it, in order of dependency: the page chain is `chunksOf` of the pending records (`NF`,
`addChunk`); one `Write` on a `stateOf` (`stateOf_write_cons`); and the layout of the written bytes in the footer's
terms (`locsFrom`, `fileLocs`, `rgTs`: chunks back to back, each with its offset and sizes), on which Props/C06 and
Lemmas/ChunkRT, FileRT build.
-/
namespace PQ

/-- records between consecutive writes, empty batches dropped, records after the last write dropped
(`pend` = records added since the last `Write`) -/
def batchesAux : List Rec → List Op → List (List Rec)
  | _, [] => []
  | pend, .add r :: ops => batchesAux (pend ++ [r]) ops
  | pend, .write :: ops => if pend.isEmpty then batchesAux [] ops else pend :: batchesAux [] ops
  | pend, .close :: ops => batchesAux pend ops

def batches (ops : List Op) : List (List Rec) := batchesAux [] ops

/-- records still pending (added after the last `Write`) -/
def pendingAux : List Rec → List Op → List Rec
  | pend, [] => pend
  | pend, .add r :: ops => pendingAux (pend ++ [r]) ops
  | _, .write :: ops => pendingAux [] ops
  | pend, .close :: ops => pendingAux pend ops

def pendingOf (ops : List Op) : List Rec := pendingAux [] ops

def addCount : List Op → Nat
  | [] => 0
  | .add _ :: ops => addCount ops + 1
  | _ :: ops => addCount ops

def Op.isClose : Op → Bool
  | .close => true
  | _ => false

def Op.isAdd : Op → Bool
  | .add _ => true
  | _ => false

def chunksAux {α : Type} : Nat → Nat → List α → List (List α)
  | 0, _, _ => []
  | fuel+1, max, l => if l.isEmpty then [] else l.take max :: chunksAux fuel max (l.drop max)

/-- `l` cut into consecutive pieces of `max` elements (the last one may be shorter) -/
def chunksOf {α : Type} (max : Nat) (l : List α) : List (List α) := chunksAux l.length max l

theorem chunksAux_nil {α : Type} (fuel max : Nat) : chunksAux fuel max ([] : List α) = [] := by
  cases fuel <;> rfl

theorem chunksOf_nil {α : Type} (max : Nat) : chunksOf max ([] : List α) = [] := rfl

/-- normal form of a chain of chunks: all but the last are full, the last holds `1..max` -/
def NF {α : Type} (max : Nat) : List (List α) → Prop
  | [] => False
  | [c] => 1 ≤ c.length ∧ c.length ≤ max
  | c :: c' :: cs => c.length = max ∧ NF max (c' :: cs)

theorem NF_cons {α : Type} {max : Nat} {c : List α} {cs : List (List α)} (hc : c.length = max) (h : NF max cs) :
    NF max (c :: cs) := by
  cases cs with
  | nil => exact h.elim
  | cons _ _ => exact ⟨hc, h⟩

/-- a chain in normal form is the cutting of its concatenation (with any sufficient fuel): the head chunk is
`take max`, being full or all there is -/
theorem NF_eq_chunksAux {α : Type} {max : Nat} (hmax : 1 ≤ max) :
    ∀ cs : List (List α), NF max cs → ∀ f, cs.flatten.length ≤ f → chunksAux f max cs.flatten = cs
  | [], h, _, _ => h.elim
  | [c], h, f, hf => by
    rw [List.flatten_cons, List.flatten_nil, List.append_nil] at hf ⊢
    obtain ⟨f, rfl⟩ : ∃ f', f = f' + 1 := ⟨f - 1, by have := h.1; omega⟩
    have hne : c.isEmpty = false := by cases c with | nil => exact absurd h.1 (by simp) | cons _ _ => rfl
    simp [chunksAux, hne, List.take_of_length_le h.2, List.drop_of_length_le h.2, chunksAux_nil]
  | c :: c' :: cs, h, f, hf => by
    rw [List.flatten_cons] at hf ⊢
    rw [List.length_append] at hf
    obtain ⟨f, rfl⟩ : ∃ f', f = f' + 1 := ⟨f - 1, by have := h.1; omega⟩
    have hne : (c ++ (c' :: cs).flatten).isEmpty = false := by
      cases c with | nil => exact absurd h.1 (by simp; omega) | cons _ _ => rfl
    rw [chunksAux, hne, List.take_left' h.1, List.drop_left' h.1,
      NF_eq_chunksAux hmax (c' :: cs) h.2 f (by have := h.1; omega)]
    rfl

theorem NF_length {α : Type} {max : Nat} (hmax : 1 ≤ max) :
    ∀ cs : List (List α), NF max cs → cs.length = (cs.flatten.length + max - 1) / max
  | [], h => h.elim
  | [c], h => by
    rw [List.flatten_cons, List.flatten_nil, List.append_nil,
      show c.length + max - 1 = c.length - 1 + max by have := h.1; omega, Nat.add_div_right _ hmax,
      Nat.div_eq_of_lt (by have := h.1; have := h.2; omega)]
    rfl
  | c :: c' :: cs, h => by
    rw [List.flatten_cons, List.length_append, h.1, List.length_cons, NF_length hmax (c' :: cs) h.2,
      show max + (c' :: cs).flatten.length + max - 1 = (c' :: cs).flatten.length + max - 1 + max by omega,
      Nat.add_div_right _ hmax]

/-- the ghost of `addToChain` on chunks of records -/
def addChunk {α : Type} (max : Nat) : List (List α) → α → List (List α)
  | [], r => [[r]]
  | c :: cs, r => if c.length = max then c :: addChunk max cs r else (c ++ [r]) :: cs

theorem addChunk_NF {α : Type} {max : Nat} (hmax : 1 ≤ max) :
    ∀ (cs : List (List α)) (r : α), NF max cs →
      NF max (addChunk max cs r) ∧ (addChunk max cs r).flatten = cs.flatten ++ [r]
  | [], _, h => h.elim
  | [c], r, h => by
    unfold addChunk
    split
    · rename_i hc
      exact ⟨⟨hc, Nat.le_refl 1, hmax⟩, by simp [addChunk]⟩
    · refine ⟨⟨by simp, ?_⟩, by simp⟩
      have := h.2
      simp only [List.length_append, List.length_cons, List.length_nil]
      omega
  | c :: c' :: cs, r, h => by
    have ih := addChunk_NF hmax (c' :: cs) r h.2
    rw [addChunk, if_pos h.1]
    exact ⟨NF_cons h.1 ih.1, by simp [ih.2]⟩

theorem addChunk_foldl_NF {α : Type} {max : Nat} (hmax : 1 ≤ max) :
    ∀ (rs : List α) (cs : List (List α)), NF max cs →
      NF max (rs.foldl (addChunk max) cs) ∧ (rs.foldl (addChunk max) cs).flatten = cs.flatten ++ rs
  | [], cs, h => by simp [h]
  | r :: rs, cs, h => by
    have h1 := addChunk_NF hmax cs r h
    have h2 := addChunk_foldl_NF hmax rs _ h1.1
    rw [List.foldl_cons]
    exact ⟨h2.1, by rw [h2.2, h1.2]; simp⟩

/-- the chain `addChunk` builds from `[[]]` is in normal form and holds `rs`, hence is `chunksOf max rs`: this is
also where `chunksOf` gets its normal form from -/
theorem addChunk_foldl_fresh {α : Type} {max : Nat} (hmax : 1 ≤ max) (rs : List α) (hrs : rs ≠ []) :
    rs.foldl (addChunk max) [[]] = chunksOf max rs ∧ NF max (chunksOf max rs) ∧ (chunksOf max rs).flatten = rs := by
  cases rs with
  | nil => exact (hrs rfl).elim
  | cons r rs =>
    have h0 : (r :: rs).foldl (addChunk max) [[]] = rs.foldl (addChunk max) [[r]] := by
      rw [List.foldl_cons, addChunk, if_neg (by simp; omega)]
      rfl
    have ⟨hnf, hfl⟩ := addChunk_foldl_NF hmax rs [[r]] ⟨Nat.le_refl 1, hmax⟩
    have e : chunksOf max (r :: rs) = rs.foldl (addChunk max) [[r]] := by
      have := NF_eq_chunksAux hmax _ hnf _ (Nat.le_refl _)
      rwa [hfl] at this
    rw [h0, e]
    exact ⟨rfl, hnf, hfl⟩

theorem chunksOf_NF {α : Type} {max : Nat} (hmax : 1 ≤ max) (rs : List α) (hrs : rs ≠ []) :
    NF max (chunksOf max rs) := (addChunk_foldl_fresh hmax rs hrs).2.1

theorem chunksOf_flatten {α : Type} {max : Nat} (hmax : 1 ≤ max) (rs : List α) :
    (chunksOf max rs).flatten = rs := by
  cases rs with
  | nil => rfl
  | cons r rs => exact (addChunk_foldl_fresh hmax (r :: rs) (by simp)).2.2

theorem chunksOf_length {α : Type} {max : Nat} (hmax : 1 ≤ max) (l : List α) :
    (chunksOf max l).length = (l.length + max - 1) / max := by
  cases l with
  | nil => exact (Nat.div_eq_of_lt (by simp only [List.length_nil]; omega)).symm
  | cons a l =>
    have := NF_length hmax _ (chunksOf_NF hmax (a :: l) (by simp))
    rwa [chunksOf_flatten hmax] at this

theorem NF_mem {α : Type} {max : Nat} :
    ∀ cs : List (List α), NF max cs → ∀ c ∈ cs, 1 ≤ c.length ∧ c.length ≤ max
  | [], h => h.elim
  | [c], h => by simpa [NF] using h
  | c :: c' :: cs, h => by
    have ih := NF_mem (c' :: cs) h.2
    refine List.forall_mem_cons.mpr ⟨?_, ih⟩
    have := ih c' List.mem_cons_self
    have := h.1
    omega

theorem NF_dropLast_full {α : Type} {max : Nat} :
    ∀ cs : List (List α), NF max cs → ∀ c ∈ cs.dropLast, c.length = max
  | [], h => h.elim
  | [c], _ => by simp
  | c :: c' :: cs, h => by
    intro d hd
    rw [List.dropLast_cons_cons] at hd
    cases List.mem_cons.mp hd with
    | inl e => subst e; exact h.1
    | inr e => exact NF_dropLast_full (c' :: cs) h.2 d e

theorem NF_ne_nil {α : Type} {max : Nat} : ∀ cs : List (List α), NF max cs → cs ≠ []
  | [], h => h.elim
  | _ :: _, _ => by simp

/-- the page holding exactly the records `chunk` -/
def pageOf (n : Nat) (chunk : List Rec) : Page := chunk.foldl Page.add (emptyPage n)

theorem pageOf_nil (n : Nat) : pageOf n [] = emptyPage n := rfl

theorem foldl_add_len (rs : List Rec) (p : Page) : (rs.foldl Page.add p).len = p.len + rs.length := by
  induction rs generalizing p with
  | nil => rfl
  | cons r rs ih => simp only [List.foldl_cons, ih, Page.add, List.length_cons]; omega

theorem pageOf_len (n : Nat) (c : List Rec) : (pageOf n c).len = c.length := by
  simp [pageOf, foldl_add_len, emptyPage]

theorem map_len_pageOf (n : Nat) (cs : List (List Rec)) : (cs.map (pageOf n)).map (·.len) = cs.map List.length := by
  rw [List.map_map]
  exact List.map_congr_left fun c _ => pageOf_len n c

theorem addChunk_pages (max n : Nat) (cs : List (List Rec)) (r : Rec) :
    (addChunk max cs r).map (pageOf n) = addToChain max n (cs.map (pageOf n)) r := by
  induction cs with
  | nil => simp [addChunk, addToChain, pageOf]
  | cons c cs ih =>
    simp only [addChunk, List.map_cons, addToChain, pageOf_len]
    split
    · simp [ih]
    · simp [pageOf, List.foldl_append]

theorem addChunk_foldl_pages (max n : Nat) (rs : List Rec) (cs : List (List Rec)) :
    (rs.foldl (addChunk max) cs).map (pageOf n) = rs.foldl (addToChain max n) (cs.map (pageOf n)) := by
  induction rs generalizing cs with
  | nil => rfl
  | cons r rs ih => simp only [List.foldl_cons, ih, addChunk_pages]

/-- the chain holding the pending records `pend` -/
def chainOf (max n : Nat) (pend : List Rec) : List Page :=
  if pend.isEmpty then [emptyPage n] else (chunksOf max pend).map (pageOf n)

theorem chainOf_of_ne_nil (max n : Nat) {pend : List Rec} (h : pend ≠ []) :
    chainOf max n pend = (chunksOf max pend).map (pageOf n) := if_neg (by simpa using h)

theorem chain_add_all {max : Nat} (hmax : 1 ≤ max) (n : Nat) (rs : List Rec) :
    rs.foldl (addToChain max n) [emptyPage n] = chainOf max n rs := by
  cases rs with
  | nil => rfl
  | cons r rs =>
    have := addChunk_foldl_pages max n (r :: rs) [[]]
    rw [(addChunk_foldl_fresh hmax _ (by simp)).1] at this
    exact this.symm

theorem chainOf_snoc {max : Nat} (hmax : 1 ≤ max) (n : Nat) (pend : List Rec) (r : Rec) :
    addToChain max n (chainOf max n pend) r = chainOf max n (pend ++ [r]) := by
  rw [← chain_add_all hmax, ← chain_add_all hmax, List.foldl_append]
  rfl

/-- `updateRowGroup`'s chunk accounting for one page of entries `es` of column `c` -/
def Chunk.addEntries (codec : Codec) (c : Col) (ch : Chunk) (es : PageEntries) : Chunk :=
  ch.addPage es.length ((pagePayload c es).length + (pageBytes codec c es).1.length)
    ((pageBytes codec c es).2.length + (pageBytes codec c es).1.length)

/-- the chunk totals of a column whose pages hold `ess` -/
def colChunk (codec : Codec) (c : Col) (ess : List PageEntries) : Chunk :=
  ess.foldl (Chunk.addEntries codec c) {}

/-- per page of the chain, the entries of column `i` -/
def colEntries (pages : List Page) (i : Nat) : List PageEntries := pages.map (·.cols.getD i [])

/-- the two sink writes of one page: header, payload -/
def pageWrites (codec : Codec) (c : Col) (es : PageEntries) : List Bytes :=
  [(pageBytes codec c es).1, (pageBytes codec c es).2]

/-- `updateRowGroup` for one page `(column index, column, entries)` of `writeOrder` -/
def updStep (codec : Codec) (docs : Nat) (rg : RG) (x : Nat × Col × PageEntries) : RG :=
  rg.update docs x.1 x.2.2.length ((pagePayload x.2.1 x.2.2).length + (pageBytes codec x.2.1 x.2.2).1.length)
    ((pageBytes codec x.2.1 x.2.2).2.length + (pageBytes codec x.2.1 x.2.2).1.length)

def WState.writeRG (s : WState) : RG :=
  (writeOrder s).foldl (updStep s.codec s.rowGroupDocs) (s.rgs.getLast?.getD (emptyRG s.cols.length))

def WState.writeOut (s : WState) : List Bytes :=
  (writeOrder s).flatMap fun x => pageWrites s.codec x.2.1 x.2.2

abbrev WState.headLen (s : WState) : Nat := (s.pages.head?.map (·.len)).getD 0

theorem foldl_pair {α β γ : Type} (g : α → γ → α) (h : γ → List β) (l : List γ) (a : α) (b : List β) :
    l.foldl (fun (acc : α × List β) x => (g acc.1 x, acc.2 ++ h x)) (a, b) = (l.foldl g a, b ++ l.flatMap h) := by
  induction l generalizing a b with
  | nil => simp
  | cons x l ih => simp [ih]

theorem write_empty (s : WState) (h : s.headLen = 0) : s.write = (s, []) := if_pos h

theorem write_nonempty (s : WState) (h : s.headLen ≠ 0) :
    s.write = ({ s with pages := [emptyPage s.cols.length], rowGroupDocs := 0, rgs := s.rgs.dropLast ++ [s.writeRG, emptyRG s.cols.length] }, s.writeOut) := by
  unfold WState.write
  rw [if_neg h]
  exact congrArg
    (fun acc : RG × List Bytes => (({ s with
      pages := [emptyPage s.cols.length], rowGroupDocs := 0, rgs := s.rgs.dropLast ++ [acc.1, emptyRG s.cols.length] } : WState), acc.2))
    (foldl_pair (updStep s.codec s.rowGroupDocs) (fun x => pageWrites s.codec x.2.1 x.2.2) (writeOrder s) _ [])

theorem colFold (codec : Codec) (docs i : Nat) (c : Col) (rg : RG) :
    ∀ ess : List PageEntries, ess ≠ [] → (ess.map fun es => (i, c, es)).foldl (updStep codec docs) rg =
      { numRows := docs,
        chunks := rg.chunks.modify i fun o => some (ess.foldl (Chunk.addEntries codec c) (o.getD {})) }
  | [], h => (h rfl).elim
  | [e], _ => rfl
  | e :: e' :: ess, _ => by
    rw [List.map_cons, List.foldl_cons, colFold codec docs i c _ (e' :: ess) (by simp)]
    simp only [updStep, RG.update, List.modify_modify_eq]
    congr 2

/-- all columns' pages folded into a row group whose chunks beyond `pre` are still `none` -/
theorem colsFold (codec : Codec) (docs : Nat) (pages : List Page) (hp : pages ≠ []) :
    ∀ (cs : List Col) (r0 : Nat) (pre : List (Option Chunk)),
      ((cs.zipIdx pre.length).flatMap fun (c, i) => (colEntries pages i).map fun es => (i, c, es)).foldl (updStep codec docs)
          { numRows := r0, chunks := pre ++ List.replicate cs.length none } =
        { numRows := if cs.isEmpty then r0 else docs,
          chunks := pre ++ (cs.zipIdx pre.length).map fun (c, i) => some (colChunk codec c (colEntries pages i)) }
  | [], r0, pre => by simp
  | c :: cs, r0, pre => by
    have ih := colsFold codec docs pages hp cs docs (pre ++ [some (colChunk codec c (colEntries pages pre.length))])
    rw [List.zipIdx_cons, List.flatMap_cons, List.foldl_append,
      colFold codec docs _ c _ _ (by simpa [colEntries] using hp), List.length_cons, List.replicate_succ,
      modify_append_length]
    simpa [colChunk] using ih

theorem writeOrder_eq (s : WState) :
    writeOrder s = s.cols.zipIdx.flatMap fun (c, i) => (colEntries s.pages i).map fun es => (i, c, es) := by
  simp only [writeOrder, colEntries, List.map_map]
  rfl

/-- the row group a batch `b` becomes -/
def batchRG (cols : List Col) (max : Nat) (codec : Codec) (b : List Rec) : RG :=
  { numRows := b.length,
    chunks := cols.zipIdx.map fun (c, i) => some (colChunk codec c (colEntries (chainOf max cols.length b) i)) }

/-- the sink writes of the `Write()` of batch `b`: per column, per page, header then payload -/
def batchOut (cols : List Col) (max : Nat) (codec : Codec) (b : List Rec) : List Bytes :=
  cols.zipIdx.flatMap fun (c, i) => (colEntries (chainOf max cols.length b) i).flatMap (pageWrites codec c)

/-- the state with `pend` pending records, written batches `done` and `docs` records added in total -/
def stateOf (cols : List Col) (max : Nat) (codec : Codec) (pend : List Rec) (done : List (List Rec)) (docs : Nat) : WState :=
  { cols := cols, max := max, codec := codec, pages := chainOf max cols.length pend, docs := docs,
    rowGroupDocs := pend.length, rgs := done.map (batchRG cols max codec) ++ [emptyRG cols.length] }

theorem init_eq_stateOf (cols : List Col) (max : Nat) (codec : Codec) :
    WState.init cols max codec = stateOf cols max codec [] [] 0 := rfl

theorem stateOf_add {max : Nat} (hmax : 1 ≤ max) (cols : List Col) (codec : Codec) (pend : List Rec)
    (done : List (List Rec)) (docs : Nat) (r : Rec) :
    (stateOf cols max codec pend done docs).add r = stateOf cols max codec (pend ++ [r]) done (docs + 1) := by
  simp only [WState.add, stateOf, chainOf_snoc hmax, List.length_append, List.length_cons, List.length_nil]

theorem chunksOf_cons {α : Type} (max : Nat) (a : α) (l : List α) :
    chunksOf max (a :: l) = (a :: l).take max :: chunksAux l.length max ((a :: l).drop max) := rfl

theorem chainOf_ne_nil (max n : Nat) : ∀ pend : List Rec, chainOf max n pend ≠ []
  | [] => by simp [chainOf]
  | _ :: _ => by simp [chainOf, chunksOf_cons]

theorem chainOf_cons (max n : Nat) (a : Rec) (l : List Rec) :
    chainOf max n (a :: l) = pageOf n ((a :: l).take max) :: (chunksAux l.length max ((a :: l).drop max)).map (pageOf n) := rfl

theorem stateOf_headLen {max : Nat} (hmax : 1 ≤ max) (cols : List Col) (codec : Codec) (pend : List Rec)
    (done : List (List Rec)) (docs : Nat) :
    (stateOf cols max codec pend done docs).headLen = 0 ↔ pend = [] := by
  cases pend with
  | nil => simp [WState.headLen, stateOf, chainOf, emptyPage]
  | cons a l =>
    simp only [WState.headLen, stateOf, chainOf_cons, List.head?_cons, Option.map_some, Option.getD_some,
      pageOf_len, List.length_take, List.length_cons, reduceCtorEq, iff_false]
    omega

/-- `hcols`: `NumRows` is recorded by `updateRowGroup`, once per page written; with no columns a `Write` writes no page
and the row group keeps `numRows = 0` whatever is pending -/
theorem stateOf_writeRG {max : Nat} (cols : List Col) (hcols : cols ≠ []) (codec : Codec)
    (pend : List Rec) (done : List (List Rec)) (docs : Nat) :
    (stateOf cols max codec pend done docs).writeRG = batchRG cols max codec pend := by
  have hlast : (stateOf cols max codec pend done docs).rgs.getLast?.getD
      (emptyRG (stateOf cols max codec pend done docs).cols.length) =
        { numRows := 0, chunks := [] ++ List.replicate cols.length none } := by
    simp [stateOf, emptyRG]
  rw [WState.writeRG, writeOrder_eq, hlast]
  exact (colsFold codec pend.length _ (chainOf_ne_nil max cols.length pend) cols 0 []).trans (by simp [batchRG, hcols])

theorem stateOf_writeOut {max : Nat} (cols : List Col) (codec : Codec)
    (pend : List Rec) (done : List (List Rec)) (docs : Nat) :
    (stateOf cols max codec pend done docs).writeOut = batchOut cols max codec pend := by
  rw [WState.writeOut, writeOrder_eq]
  simp only [stateOf, batchOut, List.flatMap_assoc, List.flatMap_map]

theorem stateOf_write_cons {max : Nat} (hmax : 1 ≤ max) (cols : List Col) (hcols : cols ≠ []) (codec : Codec)
    (a : Rec) (l : List Rec) (done : List (List Rec)) (docs : Nat) :
    (stateOf cols max codec (a :: l) done docs).write =
      (stateOf cols max codec [] (done ++ [a :: l]) docs, batchOut cols max codec (a :: l)) := by
  have hne : (stateOf cols max codec (a :: l) done docs).headLen ≠ 0 := by
    rw [Ne, stateOf_headLen hmax]; simp
  rw [write_nonempty _ hne, stateOf_writeRG cols hcols, stateOf_writeOut]
  simp [stateOf, chainOf]

/-- the state after a sequence of calls (`Close` does not change the state) -/
def WState.exec (s : WState) : List Op → WState
  | [] => s
  | .add r :: ops => (s.add r).exec ops
  | .write :: ops => s.write.1.exec ops
  | .close :: ops => s.exec ops

/-- the sink writes of each call of a `Close`-free history -/
def WState.outs (s : WState) : List Op → List (List Bytes)
  | [] => []
  | .add r :: ops => [] :: (s.add r).outs ops
  | .write :: ops => s.write.2 :: s.write.1.outs ops
  | .close :: ops => [] :: s.outs ops

theorem outs_length (s : WState) (ops : List Op) : (s.outs ops).length = ops.length := by
  induction ops generalizing s with
  | nil => rfl
  | cons op ops ih => cases op <;> simp [WState.outs, ih]

theorem runOps_append (s : WState) :
    ∀ (body rest : List Op), (∀ op ∈ body, op.isClose = false) →
      runOps s (body ++ rest) = (s.outs body).map some ++ runOps (s.exec body) rest := by
  intro body
  induction body generalizing s with
  | nil => intro rest _; rfl
  | cons op body ih =>
    intro rest h
    have hb : ∀ op ∈ body, op.isClose = false := fun o ho => h o (List.mem_cons_of_mem _ ho)
    cases op with
    | add r => simp [runOps, WState.step, WState.outs, WState.exec, ih _ rest hb]
    | write => simp [runOps, WState.step, WState.outs, WState.exec, ih _ rest hb]
    | close => exact absurd (h .close List.mem_cons_self) (by simp [Op.isClose])

theorem runOps_noclose (s : WState) (body : List Op) (h : ∀ op ∈ body, op.isClose = false) :
    runOps s body = (s.outs body).map some := by
  have := runOps_append s body [] h
  simpa [runOps] using this

theorem foldl_add_cols (n i : Nat) (hi : i < n) :
    ∀ (rs : List Rec) (p : Page), p.cols.length = n → (∀ r ∈ rs, r.length = n) →
      (rs.foldl Page.add p).cols.getD i [] = p.cols.getD i [] ++ rs.flatMap (·.getD i [])
  | [], p, _, _ => by simp
  | r :: rs, p, hp, hr => by
    have hrn : r.length = n := hr r List.mem_cons_self
    have hlen : (p.add r).cols.length = n := by simp [Page.add, hp, hrn]
    rw [List.foldl_cons, foldl_add_cols n i hi rs (p.add r) hlen (fun r' h' => hr r' (List.mem_cons_of_mem _ h'))]
    have h1 : i < p.cols.length := hp ▸ hi
    have h2 : i < r.length := hrn ▸ hi
    simp [Page.add, List.getD_eq_getElem?_getD, List.getElem?_zipWith, List.getElem?_eq_getElem h1, List.getElem?_eq_getElem h2]

theorem pageOf_col (n i : Nat) (hi : i < n) (chunk : List Rec) (h : ∀ r ∈ chunk, r.length = n) :
    (pageOf n chunk).cols.getD i [] = chunk.flatMap (·.getD i []) := by
  unfold pageOf
  rw [foldl_add_cols n i hi chunk (emptyPage n) (by simp [emptyPage]) h]
  simp [emptyPage, List.getD_eq_getElem?_getD, hi]

theorem flatMap_flatten {α β : Type} (f : α → List β) (cs : List (List α)) :
    cs.flatten.flatMap f = cs.flatMap fun c => c.flatMap f := by
  rw [← List.flatMap_id, List.flatMap_assoc]
  rfl

theorem colEntries_chain {max : Nat} (hmax : 1 ≤ max) (n i : Nat) (hi : i < n) (b : List Rec) (hb : b ≠ [])
    (hw : ∀ r ∈ b, r.length = n) :
    colEntries (chainOf max n b) i = (chunksOf max b).map fun ck => ck.flatMap (·.getD i []) := by
  rw [chainOf_of_ne_nil max n hb, colEntries, List.map_map]
  refine List.map_congr_left fun ck hck => pageOf_col n i hi ck fun r hr => hw r ?_
  rw [← chunksOf_flatten hmax b]
  exact List.mem_flatten.mpr ⟨ck, hck, hr⟩

theorem colEntries_flatten {max : Nat} (hmax : 1 ≤ max) (n i : Nat) (hi : i < n) (b : List Rec)
    (hw : ∀ r ∈ b, r.length = n) : (colEntries (chainOf max n b) i).flatten = b.flatMap (·.getD i []) := by
  cases b with
  | nil => simp [chainOf, colEntries, emptyPage, List.getD_eq_getElem?_getD, hi]
  | cons r rs =>
    rw [colEntries_chain hmax n i hi _ (by simp) hw, ← List.flatMap_def, ← flatMap_flatten, chunksOf_flatten hmax]

theorem batchesAux_ne_nil : ∀ (ops : List Op) (pend : List Rec), ∀ b ∈ batchesAux pend ops, b ≠ []
  | [], _, b, hb => by simp [batchesAux] at hb
  | .add r :: ops, pend, b, hb => batchesAux_ne_nil ops (pend ++ [r]) b hb
  | .close :: ops, pend, b, hb => batchesAux_ne_nil ops pend b hb
  | .write :: ops, [], b, hb => batchesAux_ne_nil ops [] b hb
  | .write :: ops, a :: l, b, hb => by
    cases List.mem_cons.mp hb with
    | inl e => exact e ▸ List.cons_ne_nil a l
    | inr e => exact batchesAux_ne_nil ops [] b e

theorem batches_ne_nil (ops : List Op) : ∀ b ∈ batches ops, b ≠ [] := batchesAux_ne_nil ops []

theorem batchesAux_append : ∀ (a b : List Op) (pend : List Rec),
    batchesAux pend (a ++ b) = batchesAux pend a ++ batchesAux (pendingAux pend a) b
  | [], _, _ => rfl
  | .add r :: a, b, pend => batchesAux_append a b (pend ++ [r])
  | .close :: a, b, pend => batchesAux_append a b pend
  | .write :: a, b, [] => batchesAux_append a b []
  | .write :: a, b, _ :: _ => congrArg (_ :: ·) (batchesAux_append a b [])

theorem batchesAux_adds : ∀ (adds : List Op), (∀ op ∈ adds, op.isAdd = true) → ∀ pend, batchesAux pend adds = []
  | [], _, _ => rfl
  | .add _ :: adds, h, _ => batchesAux_adds adds (fun o ho => h o (List.mem_cons_of_mem _ ho)) _
  | .write :: _, h, _ => absurd (h .write List.mem_cons_self) (by simp [Op.isAdd])
  | .close :: _, h, _ => absurd (h .close List.mem_cons_self) (by simp [Op.isAdd])

theorem batchRG_numRows (cols : List Col) (max : Nat) (codec : Codec) (b : List Rec) :
    (batchRG cols max codec b).numRows = b.length := rfl

theorem filter_done_rgs (cols : List Col) (max : Nat) (codec : Codec) (done : List (List Rec))
    (h : ∀ b ∈ done, b ≠ []) :
    (done.map (batchRG cols max codec)).filter (·.numRows ≠ 0) = done.map (batchRG cols max codec) := by
  rw [List.filter_eq_self]
  exact List.forall_mem_map.mpr fun b hb => by simpa [batchRG_numRows] using h b hb

theorem chainOf_lens_sum {max : Nat} (hmax : 1 ≤ max) (n : Nat) (pend : List Rec) :
    ((chainOf max n pend).map (·.len)).sum = pend.length := by
  cases pend with
  | nil => rfl
  | cons a l =>
    rw [chainOf_of_ne_nil max n (by simp), map_len_pageOf, ← List.length_flatten, chunksOf_flatten hmax]

theorem writeOrder_length (s : WState) : (writeOrder s).length = s.pages.length * s.cols.length := by
  unfold writeOrder
  rw [length_flatMap_const s.pages.length _ _ (by intro x _; simp), List.length_zipIdx]

theorem writeOut_length (s : WState) : s.writeOut.length = 2 * s.pages.length * s.cols.length := by
  unfold WState.writeOut
  rw [length_flatMap_const 2 _ _ (by intro x _; rfl), writeOrder_length, Nat.mul_assoc]

theorem batchOut_length (cols : List Col) (max : Nat) (codec : Codec) (b : List Rec) :
    (batchOut cols max codec b).length = 2 * (chainOf max cols.length b).length * cols.length := by
  have := writeOut_length (stateOf cols max codec b [] 0)
  rw [stateOf_writeOut] at this
  exact this

/-- sink writes per call of a `Close`-free history -/
def countsAux (max n : Nat) : List Rec → List Op → List Nat
  | _, [] => []
  | pend, .add r :: ops => 0 :: countsAux max n (pend ++ [r]) ops
  | pend, .write :: ops => 2 * (chunksOf max pend).length * n :: countsAux max n [] ops
  | pend, .close :: ops => 0 :: countsAux max n pend ops

theorem footerT_congr (s s' : WState) (hc : s.cols = s'.cols) (hk : s.codec.id = s'.codec.id)
    (hr : s.rgs = s'.rgs) : footerT s = footerT s' := by
  unfold footerT
  rw [hc, hk, hr]

theorem close_eq (s : WState) : s.close = (footerT s).map fun t => [t.enc, le32 t.enc.length, par1] := by
  unfold WState.close
  cases footerT s <;> rfl

theorem runOps_close (s : WState) : runOps s [.close] = [s.close] := by
  unfold runOps WState.step
  cases s.close <;> rfl

theorem exec_adds (s : WState) : ∀ adds : List Op, (∀ op ∈ adds, op.isAdd = true) →
    (s.exec adds).cols = s.cols ∧ (s.exec adds).codec = s.codec ∧ (s.exec adds).rgs = s.rgs ∧
    s.outs adds = List.replicate adds.length []
  | [], _ => ⟨rfl, rfl, rfl, rfl⟩
  | .add r :: adds, h => by
    have ih := exec_adds (s.add r) adds fun o ho => h o (List.mem_cons_of_mem _ ho)
    exact ⟨ih.1, ih.2.1, ih.2.2.1, congrArg ([] :: ·) ih.2.2.2⟩
  | .write :: _, h => absurd (h .write List.mem_cons_self) (by simp [Op.isAdd])
  | .close :: _, h => absurd (h .close List.mem_cons_self) (by simp [Op.isAdd])

theorem Op.isClose_of_isAdd : ∀ op : Op, op.isAdd = true → op.isClose = false
  | .add _, _ => rfl

theorem exec_append (s : WState) (a b : List Op) : s.exec (a ++ b) = (s.exec a).exec b := by
  induction a generalizing s with
  | nil => rfl
  | cons op a ih => cases op <;> simp [WState.exec, ih]

theorem fileBytes_append (a b : List (Option (List Bytes))) : fileBytes (a ++ b) = fileBytes a ++ fileBytes b := by
  simp [fileBytes]

theorem fileBytes_cons (a : Option (List Bytes)) (b : List (Option (List Bytes))) :
    fileBytes (a :: b) = (a.getD []).flatten ++ fileBytes b := by
  simp [fileBytes]

theorem fileBytes_replicate_nil (k : Nat) : fileBytes (List.replicate k (some [])) = [] := by
  induction k with
  | zero => rfl
  | succ k ih => rw [List.replicate_succ, fileBytes_cons, ih]; rfl

/-- the bytes of a column chunk whose pages hold `ess`: header ‖ payload per page, along the chain -/
def chunkBytes (codec : Codec) (c : Col) (ess : List PageEntries) : Bytes :=
  (ess.flatMap (pageWrites codec c)).flatten

theorem foldl_addEntries_totals (codec : Codec) (c : Col) (ess : List PageEntries) (ch : Chunk) :
    (ess.foldl (Chunk.addEntries codec c) ch).totalCompressed = ch.totalCompressed + (chunkBytes codec c ess).length ∧
    (ess.foldl (Chunk.addEntries codec c) ch).numValues = ch.numValues + (ess.map List.length).sum ∧
    (ess.foldl (Chunk.addEntries codec c) ch).totalUncompressed =
      ch.totalUncompressed + (ess.map fun es => (pageBytes codec c es).1.length + (pagePayload c es).length).sum := by
  induction ess generalizing ch with
  | nil => simp [chunkBytes]
  | cons e ess ih =>
    have := ih (ch.addEntries codec c e)
    simp only [List.foldl_cons, this.1, this.2.1, this.2.2]
    simp only [chunkBytes, List.flatMap_cons, pageWrites, List.flatten_append, List.flatten_cons, List.flatten_nil,
      List.length_append, Chunk.addEntries, Chunk.addPage, List.map_cons, List.sum_cons, List.length_nil]
    omega

theorem colChunk_totalCompressed (codec : Codec) (c : Col) (ess : List PageEntries) :
    (colChunk codec c ess).totalCompressed = (chunkBytes codec c ess).length := by
  have := (foldl_addEntries_totals codec c ess {}).1
  simpa [colChunk] using this

theorem colChunk_numValues (codec : Codec) (c : Col) (ess : List PageEntries) :
    (colChunk codec c ess).numValues = (ess.map List.length).sum := by
  have := (foldl_addEntries_totals codec c ess {}).2.1
  simpa [colChunk] using this

theorem colChunk_totalUncompressed (codec : Codec) (c : Col) (ess : List PageEntries) :
    (colChunk codec c ess).totalUncompressed =
      (ess.map fun es => (pageBytes codec c es).1.length + (pagePayload c es).length).sum := by
  have := (foldl_addEntries_totals codec c ess {}).2.2
  simpa [colChunk] using this

/-- a column chunk as the footer locates it -/
structure ChunkLoc where
  col : Col
  chunk : Chunk
  offset : Nat
  bytes : Bytes

/-- one row group's chunks `(column, totals, bytes)` laid out back to back from `pos` -/
def locsFrom : List (Col × Chunk × Bytes) → Nat → List ChunkLoc
  | [], _ => []
  | (c, ch, bs) :: rest, pos => ⟨c, ch, pos, bs⟩ :: locsFrom rest (pos + bs.length)

/-- the bytes of one row group given as chunks `(column, totals, bytes)`: the chunks' bytes back to back -/
def itemsBytes (its : List (Col × Chunk × Bytes)) : Bytes := its.flatMap (·.2.2)

/-- row groups laid out back to back from `pos` -/
def fileLocs : List (List (Col × Chunk × Bytes)) → Nat → List (List ChunkLoc)
  | [], _ => []
  | its :: rest, pos => locsFrom its pos :: fileLocs rest (pos + (itemsBytes its).length)

/-- the chunks of batch `b`: per column its totals and its bytes -/
def batchItems (cols : List Col) (max : Nat) (codec : Codec) (b : List Rec) : List (Col × Chunk × Bytes) :=
  cols.zipIdx.map fun (c, i) =>
    (c, colChunk codec c (colEntries (chainOf max cols.length b) i),
        chunkBytes codec c (colEntries (chainOf max cols.length b) i))

/-- thrift `RowGroup`s for row groups `(num_rows, chunks)` laid out back to back from `pos`:
`file_offset` and `data_page_offset` of every chunk (both written by `chunkT`) are its `locsFrom`
offset, `total_byte_size` is the size of the row group's bytes -/
def rgTs (cid : Nat) : List (Nat × List (Col × Chunk × Bytes)) → Nat → List Thrift.TVal
  | [], _ => []
  | (rows, its) :: rest, pos =>
    Thrift.TVal.struct [(1, .list 12 ((locsFrom its pos).map fun x => chunkT x.col cid x.chunk x.offset)),
             (2, .int 6 ((itemsBytes its).length : Nat)), (3, .int 6 rows)] :: rgTs cid rest (pos + (itemsBytes its).length)

theorem rgChunksT_items (cols : List Col) (cid : Nat) :
    ∀ (its : List (Col × Chunk × Bytes)) (pos : Nat), (∀ it ∈ its, it.2.1.totalCompressed = it.2.2.length) →
      rgChunksT cols cid (its.map fun it => (it.1, some it.2.1)) pos =
        ((locsFrom its pos).map (fun x => chunkT x.col cid x.chunk x.offset),
          pos + (itemsBytes its).length, (itemsBytes its).length)
  | [], pos, _ => rfl
  | (c, ch, bs) :: rest, pos, h => by
    have hh : ch.totalCompressed = bs.length := h (c, ch, bs) List.mem_cons_self
    have ih := rgChunksT_items cols cid rest (pos + bs.length) (fun it hit => h it (List.mem_cons_of_mem _ hit))
    simp only [List.map_cons, rgChunksT, hh, ih, locsFrom, itemsBytes, List.flatMap_cons, List.length_append]
    simp only [Prod.mk.injEq, true_and]
    omega

theorem zip_zipIdx_map {α β : Type} (f : α × Nat → β) :
    ∀ (l : List α) (k : Nat), l.zip ((l.zipIdx k).map f) = (l.zipIdx k).map fun x => (x.1, f x)
  | [], _ => rfl
  | a :: l, k => by simp [zip_zipIdx_map f l (k + 1)]

theorem batchRG_zip (cols : List Col) (max : Nat) (codec : Codec) (b : List Rec) :
    cols.zip (batchRG cols max codec b).chunks =
      (batchItems cols max codec b).map fun it => (it.1, some it.2.1) := by
  unfold batchRG batchItems
  simp only [zip_zipIdx_map, List.map_map]
  rfl

theorem batchItems_sizes (cols : List Col) (max : Nat) (codec : Codec) (b : List Rec) :
    ∀ it ∈ batchItems cols max codec b, it.2.1.totalCompressed = it.2.2.length := by
  intro it hit
  unfold batchItems at hit
  obtain ⟨x, _, rfl⟩ := List.mem_map.mp hit
  exact colChunk_totalCompressed _ _ _

theorem rowGroupsT_done (cols : List Col) (max : Nat) (codec : Codec) :
    ∀ (done : List (List Rec)) (pos : Nat), (∀ b ∈ done, b ≠ []) →
      rowGroupsT cols codec.id (done.map (batchRG cols max codec) ++ [emptyRG cols.length]) pos =
        rgTs codec.id (done.map fun b => (b.length, batchItems cols max codec b)) pos
  | [], pos, _ => by simp [rowGroupsT, emptyRG, rgTs]
  | b :: done, pos, h => by
    have hb : (batchRG cols max codec b).numRows ≠ 0 := by
      have := h b List.mem_cons_self
      simpa [batchRG_numRows] using this
    simp only [List.map_cons, List.cons_append, rowGroupsT, if_neg hb, batchRG_zip,
      rgChunksT_items cols codec.id _ pos (batchItems_sizes cols max codec b), rgTs]
    rw [rowGroupsT_done cols max codec done _ (fun b' hb' => h b' (List.mem_cons_of_mem _ hb'))]
    rfl

theorem locsFrom_append : ∀ (a b : List (Col × Chunk × Bytes)) (pos : Nat),
    locsFrom (a ++ b) pos = locsFrom a pos ++ locsFrom b (pos + (itemsBytes a).length)
  | [], _, _ => rfl
  | (c, ch, bs) :: a, b, pos => by
    simp [locsFrom, itemsBytes, locsFrom_append a b, Nat.add_assoc]

/-- the layout of a file is the layout of all its chunks in a row, cut by row group: what holds of every
`locsFrom` holds of `fileLocs` -/
theorem fileLocs_flatten : ∀ (itss : List (List (Col × Chunk × Bytes))) (pos : Nat),
    (fileLocs itss pos).flatten = locsFrom itss.flatten pos
  | [], _ => rfl
  | its :: rest, pos => by
    rw [fileLocs, List.flatten_cons, List.flatten_cons, locsFrom_append, fileLocs_flatten rest]

theorem itemsBytes_flatten (itss : List (List (Col × Chunk × Bytes))) :
    itemsBytes itss.flatten = itss.flatMap itemsBytes := flatMap_flatten _ itss

theorem locsFrom_slice :
    ∀ (its : List (Col × Chunk × Bytes)) (pre post : Bytes) (x : ChunkLoc), x ∈ locsFrom its pre.length →
      ((pre ++ itemsBytes its ++ post).drop x.offset).take x.bytes.length = x.bytes
  | [], _, _, x, hx => by simp [locsFrom] at hx
  | (c, ch, bs) :: rest, pre, post, x, hx => by
    simp only [locsFrom, List.mem_cons] at hx
    cases hx with
    | inl e =>
      subst e
      simp only [itemsBytes, List.flatMap_cons, List.append_assoc]
      rw [List.drop_left, List.take_left]
    | inr e =>
      have := locsFrom_slice rest (pre ++ bs) post x (by simpa using e)
      simpa [itemsBytes, List.append_assoc] using this

theorem locsFrom_bytes : ∀ (its : List (Col × Chunk × Bytes)) (pos : Nat),
    (locsFrom its pos).flatMap (·.bytes) = itemsBytes its
  | [], _ => rfl
  | (c, ch, bs) :: rest, pos => by simp [locsFrom, itemsBytes, locsFrom_bytes rest]

theorem locsFrom_sizes : ∀ (its : List (Col × Chunk × Bytes)) (pos : Nat),
    (∀ it ∈ its, it.2.1.totalCompressed = it.2.2.length) →
    ∀ x ∈ locsFrom its pos, x.chunk.totalCompressed = x.bytes.length
  | [], _, _, x, hx => by simp [locsFrom] at hx
  | (c, ch, bs) :: rest, pos, h, x, hx => by
    simp only [locsFrom, List.mem_cons] at hx
    cases hx with
    | inl e => subst e; exact h (c, ch, bs) List.mem_cons_self
    | inr e => exact locsFrom_sizes rest _ (fun it hit => h it (List.mem_cons_of_mem _ hit)) x e

theorem locsFrom_offset : ∀ (its : List (Col × Chunk × Bytes)) (pos k : Nat) (h : k < (locsFrom its pos).length),
    (locsFrom its pos)[k].offset = pos + (((locsFrom its pos).take k).map (·.bytes.length)).sum
  | [], _, _, h => by simp [locsFrom] at h
  | _ :: _, _, 0, _ => by simp [locsFrom]
  | (c, ch, bs) :: rest, pos, k + 1, h => by
    simp only [locsFrom, List.getElem_cons_succ, List.take_succ_cons, List.map_cons, List.sum_cons]
    rw [locsFrom_offset rest _ k (by simpa [locsFrom] using h), Nat.add_assoc]

theorem batchOut_flatten (cols : List Col) (max : Nat) (codec : Codec) (b : List Rec) :
    (batchOut cols max codec b).flatten = itemsBytes (batchItems cols max codec b) := by
  unfold batchOut batchItems itemsBytes
  rw [flatten_flatMap, List.flatMap_map]
  rfl

theorem run_stateOf {max : Nat} (hmax : 1 ≤ max) (cols : List Col) (hcols : cols ≠ []) (codec : Codec) :
    ∀ (ops : List Op) (pend : List Rec) (done : List (List Rec)) (docs : Nat),
      (stateOf cols max codec pend done docs).exec ops =
        stateOf cols max codec (pendingAux pend ops) (done ++ batchesAux pend ops) (docs + addCount ops) ∧
      ((stateOf cols max codec pend done docs).outs ops).map List.length = countsAux max cols.length pend ops ∧
      fileBytes (((stateOf cols max codec pend done docs).outs ops).map some) =
        (batchesAux pend ops).flatMap fun b => itemsBytes (batchItems cols max codec b)
  | [], pend, done, docs => ⟨by rw [batchesAux, List.append_nil]; rfl, rfl, rfl⟩
  | .add r :: ops, pend, done, docs => by
    have ih := run_stateOf hmax cols hcols codec ops (pend ++ [r]) done (docs + 1)
    rw [WState.exec, WState.outs, stateOf_add hmax, List.map_cons, List.map_cons, fileBytes_cons, ih.1, ih.2.1, ih.2.2,
      addCount, Nat.add_assoc, Nat.add_comm 1]
    exact ⟨rfl, rfl, rfl⟩
  | .close :: ops, pend, done, docs => by
    have ih := run_stateOf hmax cols hcols codec ops pend done docs
    rw [WState.exec, WState.outs, List.map_cons, List.map_cons, fileBytes_cons, ih.1, ih.2.1, ih.2.2]
    exact ⟨rfl, rfl, rfl⟩
  | .write :: ops, [], done, docs => by
    have ih := run_stateOf hmax cols hcols codec ops [] done docs
    rw [WState.exec, WState.outs, write_empty (stateOf cols max codec [] done docs) rfl, List.map_cons, List.map_cons,
      fileBytes_cons, ih.1, ih.2.1, ih.2.2]
    exact ⟨rfl, by simp [countsAux, chunksOf_nil], rfl⟩
  | .write :: ops, a :: l, done, docs => by
    have ih := run_stateOf hmax cols hcols codec ops [] (done ++ [a :: l]) docs
    rw [WState.exec, WState.outs, stateOf_write_cons hmax cols hcols, List.map_cons, List.map_cons, fileBytes_cons,
      ih.1, ih.2.1, ih.2.2, List.append_assoc, batchOut_length, Option.getD_some, batchOut_flatten]
    exact ⟨rfl, by simp [countsAux, chainOf], rfl⟩

end PQ
