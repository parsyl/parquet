import PQ.Lemmas.Plain
import PQ.Lemmas.Thrift
import PQ.Lemmas.Dremel
import PQ.Lemmas.RleImpl
/-!
# The page-level round trip

`pageBytes k c es` (what the writer puts in the file for one page) is parsed by the independent
specification parser `specPage` back to exactly `es`, with exactly the section lengths the header
announces (`specPage_at`; C01 core, C02 lengths).  The parser side is proved once, for any v1 header and any payload
(`specPage_of_header`); the writer supplies the header (`pageHeader_ok`), the payload (`payload_roundtrip`)
and the codec (`CodecOK`).
-/
namespace PQ
open PQ.Thrift

theorem one_le_bitsLen (n : Nat) (h : 1 ≤ n) : 1 ≤ bitsLen n := by
  unfold bitsLen
  rw [if_neg (by omega)]
  omega

theorem bitsLen_le_four (n : Nat) (h : n ≤ 15) : bitsLen n ≤ 4 :=
  bitsLen_le_of_lt_two_pow n 4 (by omega)

/-- a level stream that the RLE/bit-packed hybrid of width `bitsLen maxLevel` holds (widths 1 to 4 are the ones the
encoder is proved for) -/
structure LevelsOK (maxLevel : Nat) (xs : List Nat) : Prop where
  le : ∀ x ∈ xs, x ≤ maxLevel
  width : 1 ≤ bitsLen maxLevel ∧ bitsLen maxLevel ≤ 4
  /-- keeps RLE headers below `2^32` and the section shorter than `2^31` (see `encode_runs`, Lemmas/RleEnc.lean) -/
  len : xs.length + 8 ≤ 2 ^ 30

theorem LevelsOK.lt {maxLevel : Nat} {xs : List Nat} (h : LevelsOK maxLevel xs) : ∀ x ∈ xs, x < 2 ^ bitsLen maxLevel :=
  fun x hx => Nat.lt_of_le_of_lt (h.le x hx) (lt_two_pow_bitsLen maxLevel)

theorem specLevels_encode {maxLevel : Nat} {xs : List Nat} (h : LevelsOK maxLevel xs) {n : Nat} (hn : xs.length = n)
    (rest : Bytes) :
    specLevels (bitsLen maxLevel) n maxLevel (encode (bitsLen maxLevel) xs ++ rest)
      = .ok (xs, (encode (bitsLen maxLevel) xs).length) := by
  subst hn
  obtain ⟨runs, pad, henc, hwf, -, hlt, hvals, hpad⟩ := encode_stream (bitsLen maxLevel) h.width xs h.lt h.len
  have hdec := specDecode_ser (bitsLen maxLevel) runs hwf (Nat.lt_trans hlt (by decide)) rest
  have h2 : xs.any (· > maxLevel) = false := by
    simp only [List.any_eq_false, decide_eq_true_eq]
    intro x hx; have := h.le x hx; omega
  unfold specLevels
  rw [henc, List.append_assoc, hdec, hvals]
  simp only
  rw [if_neg (by simp), if_neg (by simp only [List.length_append, List.length_replicate]; omega), List.drop_left,
    List.take_left, h2]
  simp [le32_length]

/-- the reader's `readLevels` on a level section: the levels plus fewer than 8 zeros of padding
(which `OptionalField.DoRead` cuts off with `[:nv]`) -/
theorem readLevelsAt_encode {maxLevel : Nat} {xs : List Nat} (h : LevelsOK maxLevel xs) (pre rest : Bytes) :
    ∃ pad, pad < 8 ∧
      readLevelsAt (bitsLen maxLevel) (pre ++ encode (bitsLen maxLevel) xs ++ rest) pre.length
        = .ok (xs ++ List.replicate pad 0, (encode (bitsLen maxLevel) xs).length) := by
  obtain ⟨pad, hpad, hd⟩ := impl_decode_encode (bitsLen maxLevel) h.width xs h.lt h.len rest
  refine ⟨pad, hpad, ?_⟩
  unfold readLevelsAt
  rw [if_neg (by simp only [List.length_append]; omega), List.append_assoc, List.drop_left, hd]

theorem nonNull_nil : nonNull [] = [] := rfl

theorem nonNull_cons_some (r d : Nat) (v : Bytes) (es : PageEntries) :
    nonNull (⟨r, d, some v⟩ :: es) = v :: nonNull es := rfl

theorem nonNull_cons_none (r d : Nat) (es : PageEntries) :
    nonNull (⟨r, d, none⟩ :: es) = nonNull es := rfl

theorem count_maxDef (maxDef : Nat) (es : PageEntries) (h : ∀ e ∈ es, (e.val.isSome ↔ e.dl = maxDef)) :
    ((es.map (·.dl)).filter (· = maxDef)).length = (nonNull es).length := by
  rw [nonNull, List.length_filterMap_eq_countP, ← List.countP_eq_length_filter, List.countP_map]
  exact List.countP_congr fun e he => by simpa using (h e he).symm

/-- the repetition levels handed to `zipEntries` / `entriesOf` for the entries `es`: theirs, or none at all for a
column without repeated ancestors (every `rep` is then 0) -/
def RepsFor (rs : List Nat) (es : PageEntries) : Prop := rs = es.map (·.rep) ∨ (rs = [] ∧ ∀ e ∈ es, e.rep = 0)

theorem RepsFor.cons {rs : List Nat} {e : Entry Bytes} {es : PageEntries} (h : RepsFor rs (e :: es)) :
    rs.head?.getD 0 = e.rep ∧ RepsFor rs.tail es := by
  rcases h with rfl | ⟨rfl, h0⟩
  · exact ⟨rfl, .inl rfl⟩
  · exact ⟨(h0 e (by simp)).symm, .inr ⟨rfl, fun x hx => h0 x (by simp [hx])⟩⟩

theorem zipEntries_roundtrip (maxDef : Nat) (es : PageEntries) (rs : List Nat)
    (h : ∀ e ∈ es, (e.val.isSome ↔ e.dl = maxDef)) (hrs : RepsFor rs es) :
    zipEntries maxDef (es.map (·.dl)) rs (nonNull es) = .ok es := by
  induction es generalizing rs with
  | nil => rfl
  | cons e es ih =>
    have h1 := h e (by simp)
    have h2 := ih rs.tail (fun x hx => h x (by simp [hx])) hrs.cons.2
    have hr := hrs.cons.1
    obtain ⟨r, d, v⟩ := e
    cases v with
    | none =>
      have : ¬ d = maxDef := fun hd => by simpa using h1.mpr hd
      simp only [List.map_cons, nonNull_cons_none, zipEntries, if_neg this, h2, hr, Except.map]
    | some v =>
      have : d = maxDef := h1.mp rfl
      simp only [List.map_cons, nonNull_cons_some, zipEntries, if_pos this, h2, hr, Except.map]

theorem required_entries (es : PageEntries) (h : ∀ e ∈ es, e.rep = 0 ∧ e.dl = 0 ∧ e.val.isSome) :
    (nonNull es).length = es.length ∧ (nonNull es).map (fun v => (⟨0, 0, some v⟩ : Entry Bytes)) = es := by
  induction es with
  | nil => exact ⟨rfl, rfl⟩
  | cons e es ih =>
    obtain ⟨h2, h3⟩ := ih (fun x hx => h x (by simp [hx]))
    obtain ⟨r, d, v⟩ := e
    obtain ⟨rfl, rfl, hv⟩ : r = 0 ∧ d = 0 ∧ v.isSome := h _ List.mem_cons_self
    cases v with
    | none => cases hv
    | some v => exact ⟨congrArg (· + 1) h2, congrArg (_ :: ·) h3⟩

theorem one_le_maxDef_of_not_required (c : Col) (h : c.isRequired = false) : 1 ≤ c.maxDef := by
  unfold Col.isRequired at h
  unfold Col.maxDef
  generalize c.reps = ts at h
  induction ts with
  | nil => simp at h
  | cons t ts ih =>
    cases t with
    | req =>
      simp only [List.all_cons] at h
      simpa [maxDef] using ih h
    | opt => simp [maxDef]
    | rpt => simp [maxDef]

theorem Col.maxRep_le_maxDef (c : Col) : c.maxRep ≤ c.maxDef := PQ.maxRep_le_maxDef c.reps

theorem WFPage.req {c : Col} {es : PageEntries} (h : WFPage c es) (hreq : c.isRequired = true) :
    ∀ e ∈ es, e.rep = 0 ∧ e.dl = 0 ∧ e.val.isSome := fun e he => by
  have := h.entries e he; rwa [if_pos hreq] at this

theorem WFPage.opt {c : Col} {es : PageEntries} (h : WFPage c es) (hreq : c.isRequired = false) :
    ∀ e ∈ es, e.dl ≤ c.maxDef ∧ e.rep ≤ c.maxRep ∧ (e.val.isSome ↔ e.dl = c.maxDef) := fun e he => by
  have := h.entries e he; rwa [if_neg (by simp [hreq])] at this

theorem WFPage.defLevels {c : Col} {es : PageEntries} (h : WFPage c es) (hreq : c.isRequired = false) :
    LevelsOK c.maxDef (es.map (·.dl)) where
  le := fun x hx => by obtain ⟨e, he, rfl⟩ := List.mem_map.mp hx; exact (h.opt hreq e he).1
  width := ⟨one_le_bitsLen _ (one_le_maxDef_of_not_required c hreq), bitsLen_le_four _ h.maxDef⟩
  len := by rw [List.length_map]; exact h.len

theorem WFPage.repLevels {c : Col} {es : PageEntries} (h : WFPage c es) (hreq : c.isRequired = false)
    (hrep : c.maxRep > 0) : LevelsOK c.maxRep (es.map (·.rep)) where
  le := fun x hx => by obtain ⟨e, he, rfl⟩ := List.mem_map.mp hx; exact (h.opt hreq e he).2.1
  width := ⟨one_le_bitsLen _ hrep, bitsLen_le_four _ (Nat.le_trans c.maxRep_le_maxDef h.maxDef)⟩
  len := by rw [List.length_map]; exact h.len

/-- the `entries ←` block of `specPage` -/
def decodePayload (c : Col) (n : Nat) (raw : Bytes) : V (List (Entry Bytes)) :=
  (if c.isRequired then do
      let vs ← specValues c.ty n raw
      pure (vs.map fun v => (⟨0, 0, some v⟩ : Entry Bytes))
    else do
      let (reps, l1) ← (if c.maxRep > 0 then specLevels (bitsLen c.maxRep) n c.maxRep raw else pure ([], 0))
      let (defs, l2) ← specLevels (bitsLen c.maxDef) n c.maxDef (raw.drop l1)
      let k := (defs.filter (· = c.maxDef)).length
      let vs ← specValues c.ty k (raw.drop (l1 + l2))
      zipEntries c.maxDef defs reps vs)

/-- `specPage`, with its `entries ←` block named -/
def specPage' (dc : Decomp) (c : Col) (codec : Int) (file : Bytes) (pos : Nat) : V SpecPage := do
  let rest := file.drop pos
  let (t, rest') ← match decVal tStruct (rest.length + 2) rest with
    | some r => pure r
    | none => .error "page: header is not a thrift struct"
  let hlen := rest.length - rest'.length
  let ph ← match decPHdr t with | some p => pure p | none => .error "page: header lacks a required field"
  if ph.ty ≠ 0 then .error "page: not a v1 data page" else
  let (nv, enc, denc, renc, st) ← match ph.dph with | some d => pure d | none => .error "page: no data_page_header"
  if enc ≠ 0 then .error "page: value encoding is not PLAIN" else
  if nv < 0 ∨ ph.compressed < 0 ∨ ph.uncompressed < 0 then .error "page: negative count or size" else
  if ¬ c.isRequired ∧ denc ≠ 3 then .error "page: definition levels are not RLE" else
  if c.maxRep > 0 ∧ renc ≠ 3 then .error "page: repetition levels are not RLE" else
  let comp := rest'.take ph.compressed.toNat
  if comp.length < ph.compressed.toNat then .error "page: compressed_page_size exceeds the file" else
  let raw ← (if codec = 0 then pure comp
             else if codec = 1 then (match dc.snappy comp with | some d => pure d | none => .error "page: snappy payload does not decode")
             else if codec = 2 then (match dc.gzip comp with | some d => pure d | none => .error "page: gzip payload does not decode")
             else .error "chunk: unsupported codec")
  if raw.length ≠ ph.uncompressed.toNat then .error "page: uncompressed_page_size disagrees with the payload" else
  let n := nv.toNat
  let entries ← decodePayload c n raw
  pure { numValues := n, entries := entries, headerLen := hlen, compressedLen := ph.compressed.toNat,
         uncompressedLen := ph.uncompressed.toNat, stats := st }

/-- `decodePayload` is literally what `specPage` runs on the uncompressed payload -/
theorem specPage_eq_specPage' (dc : Decomp) (c : Col) (codec : Int) (file : Bytes) (pos : Nat) :
    specPage dc c codec file pos = specPage' dc c codec file pos := rfl

theorem payload_roundtrip (c : Col) (es : PageEntries) (hwf : WFPage c es) :
    decodePayload c es.length (pagePayload c es) = .ok es := by
  have hvals := specValues_plain c.ty (nonNull es) hwf.vals
  unfold decodePayload pagePayload
  by_cases hreq : c.isRequired = true
  · obtain ⟨hl, hm⟩ := required_entries es (hwf.req hreq)
    rw [if_pos hreq, if_pos hreq, ← hl, hvals]
    simp only [bind, Except.bind, pure, Except.pure, hm]
  · have hreq' : c.isRequired = false := by simpa using hreq
    have hiff : ∀ e ∈ es, (e.val.isSome ↔ e.dl = c.maxDef) := fun e he => (hwf.opt hreq' e he).2.2
    have hdefs := specLevels_encode (hwf.defLevels hreq') (List.length_map _)
    have hcount := count_maxDef c.maxDef es hiff
    rw [if_neg hreq, if_neg hreq]
    by_cases hrep : c.maxRep > 0
    · rw [if_pos hrep, if_pos hrep, List.append_assoc, specLevels_encode (hwf.repLevels hreq' hrep) (List.length_map _)]
      simp only [bind, Except.bind, List.drop_left, hdefs, List.drop_length_add_append, hcount, hvals]
      exact zipEntries_roundtrip c.maxDef es _ hiff (Or.inl rfl)
    · rw [if_neg hrep, if_neg hrep]
      simp only [bind, Except.bind, pure, Except.pure, List.drop_zero, List.nil_append, hdefs, Nat.zero_add,
        List.drop_left, hcount, hvals]
      exact zipEntries_roundtrip c.maxDef es _ hiff
        (Or.inr ⟨rfl, fun e he => by have := (hwf.opt hreq' e he).2.1; omega⟩)

/-- with the fuel `specPage` and the reader give it the thrift decoder returns the page header and stops exactly
at its end (`TopOK.dec`) -/
theorem pageHeader_ok (u cz nv : Nat) (sfs : List (Nat × TVal)) (hst : WFFields 0 sfs) (hsl : slackFields sfs = 0) :
    TopOK (pageHeaderT u cz nv (.struct sfs)) :=
  ⟨rfl, by simp [pageHeaderT, TVal.WF, WFFields, tI32, tI64, hst], by simp [pageHeaderT, TVal.slack, slackFields, hsl]⟩

/-- the fields of the `Statistics` struct of a page header -/
def statsFields (r : Option Nat × Option Bytes × Option Bytes) : List (Nat × TVal) := (statsT r).fieldsOf

theorem statsT_eq (r : Option Nat × Option Bytes × Option Bytes) : statsT r = .struct (statsFields r) := rfl

theorem statsFields_wf (r : Option Nat × Option Bytes × Option Bytes) : WFFields 0 (statsFields r) := by
  obtain ⟨a, b, c⟩ := r
  cases a <;> cases b <;> cases c <;> simp [statsFields, statsT, TVal.fieldsOf, WFFields, TVal.WF, tI32, tI64]

theorem statsFields_slack (r : Option Nat × Option Bytes × Option Bytes) : slackFields (statsFields r) = 0 := by
  obtain ⟨a, b, c⟩ := r
  cases a <;> cases b <;> cases c <;> simp [statsFields, statsT, TVal.fieldsOf, slackFields, TVal.slack]

theorem decPHdr_pageHeader (u cz nv : Nat) (sfs : List (Nat × TVal)) :
    decPHdr (pageHeaderT u cz nv (.struct sfs)) =
      some { ty := 0, uncompressed := u, compressed := cz, dph := some (nv, 0, 3, 3, some sfs),
             hasDict := false, hasIndex := false, hasV2 := false } := rfl

/-- under the codec id `codec` the bytes `stored` stand for the payload `raw`: as they are (0), or such that the
snappy (1) / gzip (2) decompressor of `dc` returns `raw` -/
def StoredAs (dc : Decomp) (codec : Int) (stored raw : Bytes) : Prop :=
  (codec = 0 ∧ stored = raw) ∨ (codec = 1 ∧ dc.snappy stored = some raw) ∨ (codec = 2 ∧ dc.gzip stored = some raw)

/-- the parser side of the page theorem, for any v1 PLAIN/RLE page header and any payload -/
theorem specPage_of_header (dc : Decomp) (c : Col) (codec : Int) (file : Bytes) (pos : Nat)
    (u cz nv : Nat) (sfs : List (Nat × TVal)) (t raw : Bytes) (es : List (Entry Bytes))
    (hdec : decVal tStruct ((file.drop pos).length + 2) (file.drop pos) = some (pageHeaderT u cz nv (.struct sfs), t))
    (hcz : cz ≤ t.length)
    (hraw : StoredAs dc codec (t.take cz) raw) (hu : raw.length = u) (hpay : decodePayload c nv raw = .ok es) :
    specPage dc c codec file pos =
      .ok { numValues := nv, entries := es, headerLen := (file.drop pos).length - t.length,
            compressedLen := cz, uncompressedLen := u, stats := some sfs } := by
  have hneg : ¬ ((nv : Int) < 0 ∨ (cz : Int) < 0 ∨ (u : Int) < 0) := by omega
  rw [specPage_eq_specPage']
  unfold specPage'
  simp only [hdec, decPHdr_pageHeader, bind, Except.bind, pure, Except.pure, ne_eq, not_true_eq_false, if_false, and_false,
    hneg, Int.toNat_natCast, List.length_take_of_le hcz, Nat.lt_irrefl]
  rcases hraw with ⟨rfl, hr⟩ | ⟨rfl, hr⟩ | ⟨rfl, hr⟩ <;>
    simp only [show ¬ ((1 : Int) = 0) by decide, show ¬ ((2 : Int) = 0) by decide, show ¬ ((2 : Int) = 1) by decide,
      if_false, if_true, hr, hu, not_true_eq_false, hpay]

/-- what the writer's codec and the parser's decompressor have to agree on for one payload: codec 0
stores the payload as it is; 1 (snappy) and 2 (gzip) are the external libraries, whose decoder must
invert their encoder on this payload -/
def CodecOK (dc : Decomp) (k : Codec) (codec : Int) (raw : Bytes) : Prop :=
  (codec = 0 ∧ k.id = 0) ∨ (codec = 1 ∧ k.id ≠ 0 ∧ dc.snappy (k.compress raw) = some raw) ∨
    (codec = 2 ∧ k.id ≠ 0 ∧ dc.gzip (k.compress raw) = some raw)

theorem Codec.apply_of_id_eq (k : Codec) (hk : k.id = 0) (b : Bytes) : k.apply b = b := if_pos hk

theorem Codec.apply_of_id_ne (k : Codec) (hk : k.id ≠ 0) (b : Bytes) : k.apply b = k.compress b := if_neg hk

theorem CodecOK.stored {dc : Decomp} {k : Codec} {codec : Int} {raw : Bytes} (h : CodecOK dc k codec raw) :
    StoredAs dc codec (k.apply raw) raw := by
  rcases h with ⟨h0, hid⟩ | ⟨h1, hid, hs⟩ | ⟨h2, hid, hs⟩
  · exact .inl ⟨h0, k.apply_of_id_eq hid raw⟩
  · exact .inr (.inl ⟨h1, k.apply_of_id_ne hid raw ▸ hs⟩)
  · exact .inr (.inr ⟨h2, k.apply_of_id_ne hid raw ▸ hs⟩)

/-- the `Statistics` fields in the header of the page that holds `es` -/
def pageStatsFields (c : Col) (es : PageEntries) : List (Nat × TVal) :=
  statsFields ((pageStats c es).result c.ty c.isRequired)

theorem pageBytes_eq (k : Codec) (c : Col) (es : PageEntries) :
    pageBytes k c es = ((pageHeaderT (pagePayload c es).length (k.apply (pagePayload c es)).length es.length
      (.struct (pageStatsFields c es))).enc, k.apply (pagePayload c es)) := rfl

/-- what `specPage` returns for the page holding `es` -/
def pageSpec (k : Codec) (c : Col) (es : PageEntries) : SpecPage :=
  { numValues := es.length, entries := es, headerLen := (pageBytes k c es).1.length,
    compressedLen := (pageBytes k c es).2.length, uncompressedLen := (pagePayload c es).length,
    stats := some (pageStatsFields c es) }

/-- **The page round trip (C01 core, C02 lengths)**, wherever the two `Write`s of a well-formed page sit in a file. -/
theorem specPage_at (dc : Decomp) (k : Codec) (codec : Int) (c : Col) (es : PageEntries)
    (hwf : WFPage c es) (hk : CodecOK dc k codec (pagePayload c es)) (file : Bytes) (pos : Nat) (rest : Bytes)
    (h : file.drop pos = (pageBytes k c es).1 ++ ((pageBytes k c es).2 ++ rest)) :
    specPage dc c codec file pos = .ok (pageSpec k c es) := by
  rw [pageSpec, pageBytes_eq] at *
  simp only at h ⊢
  have hdec := (pageHeader_ok (pagePayload c es).length (k.apply (pagePayload c es)).length es.length
    (pageStatsFields c es) (statsFields_wf _) (statsFields_slack _)).dec ((file.drop pos).length + 2)
    (k.apply (pagePayload c es) ++ rest) (by rw [h]; simp only [List.length_append]; omega)
  rw [← h] at hdec
  rw [specPage_of_header dc c codec file pos _ _ _ _ _ (pagePayload c es) es hdec (by simp only [List.length_append]; omega)
    (by rw [List.take_left]; exact hk.stored) rfl (payload_roundtrip c es hwf), h]
  simp only [List.length_append, Nat.add_sub_cancel]

theorem specPage_pageBytes_codec (dc : Decomp) (k : Codec) (codec : Int) (c : Col) (es : PageEntries)
    (hwf : WFPage c es) (hk : CodecOK dc k codec (pagePayload c es)) (pre rest : Bytes) :
    specPage dc c codec (pre ++ (pageBytes k c es).1 ++ (pageBytes k c es).2 ++ rest) pre.length =
      .ok (pageSpec k c es) :=
  specPage_at dc k codec c es hwf hk _ _ rest (drop_of_eq_append (by simp only [List.append_assoc]) rfl)

/-- **Uncompressed pages** (`k.id = 0`, codec 0 in the column-chunk metadata). -/
theorem specPage_pageBytes (dc : Decomp) (k : Codec) (hk : k.id = 0) (c : Col) (es : PageEntries)
    (hwf : WFPage c es) (pre rest : Bytes) :
    specPage dc c 0 (pre ++ (pageBytes k c es).1 ++ (pageBytes k c es).2 ++ rest) pre.length =
      .ok { numValues := es.length, entries := es, headerLen := (pageBytes k c es).1.length,
            compressedLen := (pagePayload c es).length, uncompressedLen := (pagePayload c es).length,
            stats := some (pageStatsFields c es) } := by
  rw [specPage_pageBytes_codec dc k 0 c es hwf (Or.inl ⟨rfl, hk⟩) pre rest, pageSpec, pageBytes_eq,
    k.apply_of_id_eq hk]

/-- **Snappy pages**, parametric in the external library inverting itself on this payload. -/
theorem specPage_pageBytes_snappy (dc : Decomp) (k : Codec) (hk : k.id ≠ 0) (c : Col) (es : PageEntries)
    (hwf : WFPage c es) (hsn : dc.snappy (k.compress (pagePayload c es)) = some (pagePayload c es))
    (pre rest : Bytes) :
    specPage dc c 1 (pre ++ (pageBytes k c es).1 ++ (pageBytes k c es).2 ++ rest) pre.length =
      .ok { numValues := es.length, entries := es, headerLen := (pageBytes k c es).1.length,
            compressedLen := (k.compress (pagePayload c es)).length, uncompressedLen := (pagePayload c es).length,
            stats := some (pageStatsFields c es) } := by
  rw [specPage_pageBytes_codec dc k 1 c es hwf (Or.inr (Or.inl ⟨rfl, hk, hsn⟩)) pre rest, pageSpec, pageBytes_eq,
    k.apply_of_id_ne hk]

/-- **Gzip pages**, likewise. -/
theorem specPage_pageBytes_gzip (dc : Decomp) (k : Codec) (hk : k.id ≠ 0) (c : Col) (es : PageEntries)
    (hwf : WFPage c es) (hgz : dc.gzip (k.compress (pagePayload c es)) = some (pagePayload c es))
    (pre rest : Bytes) :
    specPage dc c 2 (pre ++ (pageBytes k c es).1 ++ (pageBytes k c es).2 ++ rest) pre.length =
      .ok { numValues := es.length, entries := es, headerLen := (pageBytes k c es).1.length,
            compressedLen := (k.compress (pagePayload c es)).length, uncompressedLen := (pagePayload c es).length,
            stats := some (pageStatsFields c es) } := by
  rw [specPage_pageBytes_codec dc k 2 c es hwf (Or.inr (Or.inr ⟨rfl, hk, hgz⟩)) pre rest, pageSpec, pageBytes_eq,
    k.apply_of_id_ne hk]

/-- the next page starts right after: header length + compressed length is what `pageBytes` wrote -/
theorem pageBytes_extent (k : Codec) (c : Col) (es : PageEntries) :
    ((pageBytes k c es).1 ++ (pageBytes k c es).2).length
      = (pageBytes k c es).1.length + (k.apply (pagePayload c es)).length := by
  rw [List.length_append, pageBytes_eq]

/-- **C02, section lengths**: the uncompressed payload is the repetition section (only below a repeated
element), the definition section and the value section, of exactly these lengths -/
theorem pagePayload_length (c : Col) (es : PageEntries) :
    (pagePayload c es).length =
      (if c.isRequired then 0 else
        (if c.maxRep > 0 then (encode (bitsLen c.maxRep) (es.map (·.rep))).length else 0) +
        (encode (bitsLen c.maxDef) (es.map (·.dl))).length) +
      (plainValues c.ty (nonNull es)).length := by
  unfold pagePayload
  by_cases h : c.isRequired = true
  · simp [h]
  · by_cases h2 : c.maxRep > 0 <;> simp [h, h2, Nat.add_assoc]

/-! ## non-vacuity: concrete columns and pages satisfying `WFPage` -/
section NonVacuity

/-- an optional int32 column; a page with a null between two values -/
def exCol : Col := { path := ["a"], reps := [.opt], ty := .i32 }
def exPage : PageEntries := [⟨0, 1, some [1, 0, 0, 0]⟩, ⟨0, 0, none⟩, ⟨0, 1, some [255, 255, 255, 255]⟩]

theorem exPage_wf : WFPage exCol exPage := ⟨by decide, by decide, by decide, by decide⟩

/-- a repeated group of optional strings (`maxRep = 1`, `maxDef = 2`): one record `["hi", null]`, one empty -/
def exCol2 : Col := { path := ["l", "s"], reps := [.rpt, .opt], ty := .str }
def exPage2 : PageEntries := [⟨0, 2, some [104, 105]⟩, ⟨1, 1, none⟩, ⟨0, 0, none⟩]

theorem exPage2_wf : WFPage exCol2 exPage2 := ⟨by decide, by decide, by decide, by decide⟩

/-- a required boolean column (no level sections) -/
def exCol3 : Col := { path := ["b"], reps := [.req], ty := .bool }
def exPage3 : PageEntries := [⟨0, 0, some [1]⟩, ⟨0, 0, some [0]⟩, ⟨0, 0, some [1]⟩]

theorem exPage3_wf : WFPage exCol3 exPage3 := ⟨by decide, by decide, by decide, by decide⟩

example (dc : Decomp) (raw : Bytes) : CodecOK dc ⟨0, id⟩ 0 raw := Or.inl ⟨rfl, rfl⟩

example : decodePayload exCol exPage.length (pagePayload exCol exPage) = .ok exPage :=
  payload_roundtrip exCol exPage exPage_wf

example (dc : Decomp) (pre rest : Bytes) :
    (specPage dc exCol2 0 (pre ++ (pageBytes ⟨0, id⟩ exCol2 exPage2).1 ++ (pageBytes ⟨0, id⟩ exCol2 exPage2).2 ++ rest)
      pre.length).map (·.entries) = .ok exPage2 := by
  rw [specPage_pageBytes dc ⟨0, id⟩ rfl exCol2 exPage2 exPage2_wf]; rfl

/-- the value section of the required boolean page: 3 bits in one byte, no levels -/
example : pagePayload exCol3 exPage3 = [5] := by decide

end NonVacuity

end PQ
