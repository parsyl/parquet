import PQ.Lemmas.SchemaTree
import PQ.Props.C03
/-!
# Records: a whole record is a tree, its columns are projections of the same tree (C03, record level)

`PQ/Lemmas/Dremel.lean` proves that the striping of ONE column is lossless.  Here a record of the
schema `ts : List FTree` is a value of the dependent type `ValsOf ts`, defined by mutual structural
recursion on the schema.  (Chosen over an untyped `Val` with a typing judgement: every inhabitant is
well typed by construction, so the projection `projCol` on a column is total, its result type
`Proj Bytes (fullReps q)` is computed from the path, and no theorem carries typing side conditions.
Leaf values are `Bytes` whatever the physical type.)  A column is a root-to-leaf path `PathsIn ts`;
`pathsL ts` lists them in the order of `colsOf ts` (`colsOf_eq`).

A record is determined by its column projections (`record_injective`): `unprojL` rebuilds the tree,
reading each group's own optional/list structure off the group's first column, which a well-formed
schema has.  Two columns agree on the `skeleton` of the record down to their common ancestors
(`skeleton_agree`); in their level streams this shows as equal `events` (`sibling_events_agree`).

`fullReps q` has one `Rep` per path element, while `Col.reps` is `declReps (fullReps q)`: `[req]`
for an all-required path.  By `colStream_declared` the stored stream is a striping under the
declared list as well.
-/
namespace PQ.Records
open PQ

/-- what one path element with repetition `r` does to the type below it -/
def Wrap : Rep → Type → Type
  | .req, α => α
  | .opt, α => Option α
  | .rpt, α => List α

def Wrap.map {α β : Type} : (r : Rep) → (α → β) → Wrap r α → Wrap r β
  | .req, f, x => f x
  | .opt, f, x => Option.map f (x : Option α)
  | .rpt, f, x => List.map f (x : List α)

/-- `Proj α (r :: ts)` is `Wrap r (Proj α ts)` (the identity, once `r` is known) -/
def toProj {α : Type} : (r : Rep) → (ts : List Rep) → Wrap r (Proj α ts) → Proj α (r :: ts)
  | .req, _, x => x
  | .opt, _, x => x
  | .rpt, _, x => x

mutual
/-- the values of a field: a required leaf holds bytes, a required group holds a value for each of its
children, an optional node holds that or nothing, a repeated node a list of them -/
def ValOf : FTree → Type
  | .leaf _ r _ => Wrap r Bytes
  | .group _ r cs => Wrap r (ValsOf cs)
/-- the values of a forest (a record when the forest is the whole schema): one value per field -/
def ValsOf : List FTree → Type
  | [] => Unit
  | t :: ts => ValOf t × ValsOf ts
end

mutual
/-- a path from the node `t` down to a leaf -/
inductive PathIn : FTree → Type
  | leaf (n : String) (r : Rep) (ty : PType) : PathIn (.leaf n r ty)
  | group (n : String) (r : Rep) {cs : List FTree} (q : PathsIn cs) : PathIn (.group n r cs)
/-- a path from a forest down to a leaf: pick a tree (`here` / `there`), then a path in it -/
inductive PathsIn : List FTree → Type
  | here {t : FTree} {ts : List FTree} (p : PathIn t) : PathsIn (t :: ts)
  | there {t : FTree} {ts : List FTree} (q : PathsIn ts) : PathsIn (t :: ts)
end

mutual
/-- the repetition types along a path, outermost first, the leaf's own last -/
def repsP : {t : FTree} → PathIn t → List Rep
  | _, .leaf _ r _ => [r]
  | _, .group _ r q => r :: repsPs q
def repsPs : {ts : List FTree} → PathsIn ts → List Rep
  | _, .here p => repsP p
  | _, .there q => repsPs q
end

mutual
/-- projection of a value on the column `p`: follow the path, mapping under every optional and
every list met on the way -/
def projT : {t : FTree} → (p : PathIn t) → ValOf t → Proj Bytes (repsP p)
  | _, .leaf _ r _, v => toProj r [] v
  | _, .group _ r q, v => toProj r _ (Wrap.map r (projL q) v)
def projL : {ts : List FTree} → (q : PathsIn ts) → ValsOf ts → Proj Bytes (repsPs q)
  | _, .here p, v => projT p v.1
  | _, .there q, v => projL q v.2
end

/-- the FULL repetition list of column `q` of the schema `ts`: one `Rep` per path element -/
abbrev fullReps {ts : List FTree} (q : PathsIn ts) : List Rep := repsPs q

/-- the projection of the record `v` on column `q` -/
abbrev projCol {ts : List FTree} (v : ValsOf ts) (q : PathsIn ts) : Proj Bytes (fullReps q) := projL q v

mutual
def namesP : {t : FTree} → PathIn t → List String
  | _, .leaf n _ _ => [n]
  | _, .group n _ q => n :: namesPs q
def namesPs : {ts : List FTree} → PathsIn ts → List String
  | _, .here p => namesP p
  | _, .there q => namesPs q
end

mutual
def tyP : {t : FTree} → PathIn t → PType
  | _, .leaf _ _ ty => ty
  | _, .group _ _ q => tyPs q
def tyPs : {ts : List FTree} → PathsIn ts → PType
  | _, .here p => tyP p
  | _, .there q => tyPs q
end

/-- `Field.Types` as the generator declares it -/
def declReps (full : List Rep) : List Rep := if full.all (· == .req) then [.req] else full

def colT (pre : List String) (rs : List Rep) {t : FTree} (p : PathIn t) : Col :=
  { path := pre ++ namesP p, reps := declReps (rs ++ repsP p), ty := tyP p }
def colL (pre : List String) (rs : List Rep) {ts : List FTree} (q : PathsIn ts) : Col :=
  { path := pre ++ namesPs q, reps := declReps (rs ++ repsPs q), ty := tyPs q }

mutual
def pathsT : (t : FTree) → List (PathIn t)
  | .leaf n r ty => [.leaf n r ty]
  | .group n r cs => (pathsL cs).map (.group n r)
def pathsL : (ts : List FTree) → List (PathsIn ts)
  | [] => []
  | t :: ts => (pathsT t).map .here ++ (pathsL ts).map .there
end

mutual
theorem mem_pathsT : {t : FTree} → (p : PathIn t) → p ∈ pathsT t
  | _, .leaf n r ty => by unfold pathsT; exact List.mem_singleton.2 rfl
  | _, .group n r q => by unfold pathsT; exact List.mem_map.2 ⟨q, mem_pathsL q, rfl⟩
theorem mem_pathsL : {ts : List FTree} → (q : PathsIn ts) → q ∈ pathsL ts
  | _, .here p => by unfold pathsL; exact List.mem_append_left _ (List.mem_map.2 ⟨p, mem_pathsT p, rfl⟩)
  | _, .there q => by unfold pathsL; exact List.mem_append_right _ (List.mem_map.2 ⟨q, mem_pathsL q, rfl⟩)
end

mutual
theorem colsAux_paths : (t : FTree) → ∀ (pre : List String) (rs : List Rep),
    colsAux pre rs t = (pathsT t).map (colT pre rs)
  | .leaf n r ty, pre, rs => by
    unfold colsAux pathsT
    rfl
  | .group n r cs, pre, rs => by
    unfold colsAux pathsT
    rw [colsAuxL_paths cs, List.map_map]
    apply List.map_congr_left
    intro q _
    simp [colT, colL, namesP, repsP, tyP]
theorem colsAuxL_paths : (ts : List FTree) → ∀ (pre : List String) (rs : List Rep),
    colsAuxL pre rs ts = (pathsL ts).map (colL pre rs)
  | [], pre, rs => by unfold colsAuxL pathsL; rfl
  | t :: ts, pre, rs => by
    unfold colsAuxL pathsL
    rw [colsAux_paths t, colsAuxL_paths ts, List.map_append, List.map_map, List.map_map]
    rfl
end

inductive Skel
  | stop
  | req (s : Skel)
  | none
  | some (s : Skel)
  | list (ss : List Skel)

/-- the projection `v` cut at depth `n`: what is left is which of the first `n` path elements are
present and how long each list among them is -/
def skeleton {α : Type} : (n : Nat) → (ts : List Rep) → Proj α ts → Skel
  | 0, _, _ => .stop
  | _+1, [], _ => .stop
  | n+1, .req :: ts, v => .req (skeleton n ts (v : Proj α ts))
  | n+1, .opt :: ts, v =>
      match (v : Option (Proj α ts)) with
      | Option.none => .none
      | Option.some x => .some (skeleton n ts x)
  | n+1, .rpt :: ts, v => .list ((v : List (Proj α ts)).map (skeleton n ts))

def Skel.wrap : (r : Rep) → Wrap r Skel → Skel
  | .req, s => .req s
  | .opt, s => match (s : Option Skel) with | Option.none => .none | Option.some x => .some x
  | .rpt, s => .list s

theorem Wrap.map_map {α β γ : Type} (r : Rep) (f : α → β) (g : β → γ) (w : Wrap r α) :
    Wrap.map r g (Wrap.map r f w) = Wrap.map r (fun x => g (f x)) w := by
  cases r with
  | req => rfl
  | opt => cases w <;> rfl
  | rpt => exact List.map_map ..

theorem skeleton_toProj {α : Type} (n : Nat) (r : Rep) (ts : List Rep) (w : Wrap r (Proj α ts)) :
    skeleton (n+1) (r :: ts) (toProj r ts w) = Skel.wrap r (Wrap.map r (skeleton n ts) w) := by
  cases r with
  | req => rfl
  | opt => cases w <;> rfl
  | rpt => rfl

mutual
/-- number of path elements two columns have in common: their common ancestors (the whole path for
one and the same column) -/
def commonT : {t : FTree} → PathIn t → PathIn t → Nat
  | _, .leaf _ _ _, .leaf _ _ _ => 1
  | _, .group _ _ q, .group _ _ q' => commonL q q' + 1
def commonL : {ts : List FTree} → PathsIn ts → PathsIn ts → Nat
  | _, .here p, .here p' => commonT p p'
  | _, .there q, .there q' => commonL q q'
  | _, .here _, .there _ => 0
  | _, .there _, .here _ => 0
end

theorem projT_leaf (n : String) (r : Rep) (ty : PType) (v : Wrap r Bytes) :
    @projT (.leaf n r ty) (.leaf n r ty) v = toProj r [] v := rfl
theorem projT_group (n : String) (r : Rep) {cs : List FTree} (q : PathsIn cs) (v : Wrap r (ValsOf cs)) :
    @projT (.group n r cs) (.group n r q) v = toProj r (repsPs q) (Wrap.map r (projL q) v) := rfl
theorem projL_here {t : FTree} {ts : List FTree} (p : PathIn t) (v : ValOf t × ValsOf ts) :
    @projL (t :: ts) (.here p) v = projT p v.1 := rfl
theorem projL_there {t : FTree} {ts : List FTree} (q : PathsIn ts) (v : ValOf t × ValsOf ts) :
    @projL (t :: ts) (.there q) v = projL q v.2 := rfl

mutual
theorem skeletonT_agree : {t : FTree} → (p p' : PathIn t) → ∀ (k : Nat), k ≤ commonT p p' → ∀ v : ValOf t,
    skeleton k (repsP p) (projT p v) = skeleton k (repsP p') (projT p' v)
  | _, .leaf _ _ _, .leaf _ _ _, _, _, _ => rfl
  | _, .group n r q, .group _ _ q', k, hk, v => by
    cases k with
    | zero => rfl
    | succ k =>
      have ih := skeleton_agree q q' k (Nat.le_of_succ_le_succ hk)
      revert v
      show ∀ v : Wrap r (ValsOf _), skeleton (k+1) (r :: repsPs q) (projT (.group n r q) v) =
        skeleton (k+1) (r :: repsPs q') (projT (.group n r q') v)
      intro v
      rw [projT_group, projT_group, skeleton_toProj, skeleton_toProj, Wrap.map_map, Wrap.map_map]
      exact congrArg (fun f => Skel.wrap r (Wrap.map r f v)) (funext ih)
/-- **Sibling columns describe the same optional/list structure.**  Two columns of the same
record have the same skeleton down to any depth `n` not exceeding the number of their common
ancestors. -/
theorem skeleton_agree {ts : List FTree} (q q' : PathsIn ts) (n : Nat) (hn : n ≤ commonL q q')
    (v : ValsOf ts) :
    skeleton n (fullReps q) (projCol v q) = skeleton n (fullReps q') (projCol v q') :=
  match ts, q, q', n, hn, v with
  | _, .here p, .here p', n, hn, v => skeletonT_agree p p' n hn v.1
  | _, .there q, .there q', n, hn, v => skeleton_agree q q' n hn v.2
  | _, .here _, .there _, _, hn, _ => by cases Nat.le_zero.1 hn; rfl
  | _, .there _, .here _, _, hn, _ => by cases Nat.le_zero.1 hn; rfl
end

mutual
theorem repsT_take : {t : FTree} → (p p' : PathIn t) → ∀ (k : Nat), k ≤ commonT p p' →
    (repsP p).take k = (repsP p').take k
  | _, .leaf _ _ _, .leaf _ _ _, _, _ => rfl
  | _, .group n r q, .group _ _ q', k, hk => by
    cases k with
    | zero => rfl
    | succ k => exact congrArg (r :: ·) (repsL_take q q' k (Nat.le_of_succ_le_succ hk))
theorem repsL_take : {ts : List FTree} → (q q' : PathsIn ts) → ∀ (k : Nat), k ≤ commonL q q' →
    (repsPs q).take k = (repsPs q').take k
  | _, .here p, .here p', k, hk => repsT_take p p' k hk
  | _, .there q, .there q', k, hk => repsL_take q q' k hk
  | _, .here _, .there _, _, hk => by cases Nat.le_zero.1 hk; rfl
  | _, .there _, .here _, _, hk => by cases Nat.le_zero.1 hk; rfl
end

/-- the entries of a stream that are not continuations of a list below repetition level `R`, with
their definition levels cut at `D` -/
def events {α : Type} (R D : Nat) (es : List (Entry α)) : List (Nat × Nat) :=
  (es.filter (fun e => decide (e.rep ≤ R))).map (fun e => (e.rep, min e.dl D))

theorem events_append {α : Type} (R D : Nat) (a b : List (Entry α)) :
    events R D (a ++ b) = events R D a ++ events R D b := by
  simp [events]

theorem events_flatMap {α β : Type} (R D : Nat) (f : β → List (Entry α)) (l : List β) :
    events R D (l.flatMap f) = l.flatMap (fun x => events R D (f x)) := by
  simp only [events, List.filter_flatMap, List.map_flatMap]

theorem events_single {α : Type} (R D r d : Nat) (x : Option α) (hr : r ≤ R) (hd : d ≤ D) :
    events R D [⟨r, d, x⟩] = [(r, d)] := by
  unfold events
  rw [List.filter_cons_of_pos (by simpa using hr)]
  show [(r, min d D)] = [(r, d)]
  rw [Nat.min_eq_left hd]

mutual
/-- the level events of a skeleton: its striping, where a cut-off point counts as one entry -/
def Skel.events : Skel → (r d k : Nat) → List (Nat × Nat)
  | .stop, r, d, _ => [(r, d)]
  | .req s, r, d, k => s.events r d k
  | .none, r, d, _ => [(r, d)]
  | .some s, r, d, k => s.events r (d+1) k
  | .list [], r, d, _ => [(r, d)]
  | .list (s :: ss), r, d, k => s.events r (d+1) (k+1) ++ Skel.eventsL ss (d+1) (k+1)
def Skel.eventsL : List Skel → (d k : Nat) → List (Nat × Nat)
  | [], _, _ => []
  | s :: ss, d, k => s.events k d k ++ Skel.eventsL ss d k
end

theorem Skel.eventsL_map {β : Type} (f : β → Skel) (d k : Nat) : ∀ l : List β,
    Skel.eventsL (l.map f) d k = l.flatMap (fun x => (f x).events k d k)
  | [] => by rw [List.map_nil, Skel.eventsL]; rfl
  | x :: xs => by rw [List.map_cons, Skel.eventsL, Skel.eventsL_map f d k xs, List.flatMap_cons]

/-- below the prefix: a value emitted under `k` repeated ancestors contributes exactly one event -/
theorem events_below {α : Type} (ts : List Rep) (r d k : Nat) (hr : r ≤ k) (v : Proj α ts) :
    events k d (stripe ts r d k v) = [(r, d)] := by
  obtain ⟨e, tl, h1, h2, h3, h4⟩ := PQ.C03.first_rep_gen ts r d k v
  have htl : tl.filter (fun e => decide (e.rep ≤ k)) = [] :=
    List.filter_eq_nil_iff.2 fun x hx => by rw [decide_eq_true_iff]; exact Nat.not_le.2 (h4 x hx).1
  rw [h1, events, List.filter_cons_of_pos (by rw [decide_eq_true_iff, h2]; exact hr), htl]
  show [(e.rep, min e.dl d)] = [(r, d)]
  rw [h2, Nat.min_eq_right h3]

/-- the events of a striping at the depth-`n` prefix are the events of the depth-`n` skeleton -/
theorem events_stripe {α : Type} : ∀ (n : Nat) (ts : List Rep) (r d k : Nat), r ≤ k → ∀ (v : Proj α ts),
    events (k + maxRep (ts.take n)) (d + maxDef (ts.take n)) (stripe ts r d k v) =
      (skeleton n ts v).events r d k
  | 0, ts, r, d, k, hr, v => events_below ts r d k hr v
  | n+1, [], r, d, k, hr, v => events_below [] r d k hr v
  | n+1, .req :: ts, r, d, k, hr, v => events_stripe n ts r d k hr v
  | n+1, .opt :: ts, r, d, k, hr, v => by
    cases v with
    | none => exact events_single _ _ r d none (Nat.le_trans hr (Nat.le_add_right ..)) (Nat.le_add_right ..)
    | some x =>
      -- both sides unfold to the same but for `d + (maxDef (ts.take n) + 1)` against `d + 1 + maxDef (ts.take n)`
      refine Eq.trans ?_ (events_stripe n ts r (d+1) k hr x)
      rw [Nat.add_right_comm]; rfl
  | n+1, .rpt :: ts, r, d, k, hr, v => by
    cases v with
    | nil => exact events_single _ _ r d none (Nat.le_trans hr (Nat.le_add_right ..)) (Nat.le_add_right ..)
    | cons x xs =>
      -- an element sits below `k + 1` repeated ancestors, at definition level `d + 1`
      have ih : ∀ r, r ≤ k + 1 → ∀ y : Proj α ts,
          events (k + (maxRep (ts.take n) + 1)) (d + (maxDef (ts.take n) + 1)) (stripe ts r (d+1) (k+1) y) =
            (skeleton n ts y).events r (d+1) (k+1) := fun r hr y => by
        rw [← events_stripe n ts r (d+1) (k+1) hr y, Nat.add_right_comm k, Nat.add_right_comm d]; rfl
      show events (k + (maxRep (ts.take n) + 1)) (d + (maxDef (ts.take n) + 1))
          (stripe ts r (d+1) (k+1) x ++ xs.flatMap (stripe ts (k+1) (d+1) (k+1))) =
        (skeleton n ts x).events r (d+1) (k+1) ++ Skel.eventsL (xs.map (skeleton n ts)) (d+1) (k+1)
      rw [events_append, events_flatMap, Skel.eventsL_map, ih r (Nat.le_succ_of_le hr) x]
      exact congrArg _ (flatMap_congr fun y _ => ih (k+1) (Nat.le_refl _) y)

/-- the entry stream the file stores for column `q` of record `v` -/
def colStream {ts : List FTree} (q : PathsIn ts) (v : ValsOf ts) : List (Entry Bytes) :=
  stripeTop (repsPs q) (projL q v)

theorem events_colStream {ts : List FTree} (q : PathsIn ts) (v : ValsOf ts) (n : Nat) :
    events (maxRep ((repsPs q).take n)) (maxDef ((repsPs q).take n)) (colStream q v) =
      (skeleton n (repsPs q) (projL q v)).events 0 0 0 := by
  have := events_stripe n (repsPs q) 0 0 0 (Nat.le_refl _) (projL q v)
  rw [Nat.zero_add, Nat.zero_add] at this
  exact this

/-- **Level-stream form of `skeleton_agree`.**  Let `R`, `D` be the maximum repetition and
definition levels of a common prefix (length `n`) of two columns.  Dropping from each column's
entry stream the entries with `rep > R` (continuations of a list below the prefix) and cutting the
definition levels at `D` leaves the same list of `(rep, dl)` pairs in both columns. -/
theorem sibling_events_agree {ts : List FTree} (q q' : PathsIn ts) (n : Nat) (hn : n ≤ commonL q q')
    (v : ValsOf ts) :
    events (maxRep ((repsPs q).take n)) (maxDef ((repsPs q).take n)) (colStream q v) =
      events (maxRep ((repsPs q).take n)) (maxDef ((repsPs q).take n)) (colStream q' v) := by
  rw [events_colStream q v n]
  rw [repsL_take q q' n hn, events_colStream q' v n, skeleton_agree q q' n hn v]

/-- in particular both streams have the same number of entries with `rep ≤ R` -/
theorem sibling_count_agree {ts : List FTree} (q q' : PathsIn ts) (n : Nat) (hn : n ≤ commonL q q')
    (v : ValsOf ts) :
    ((colStream q v).filter (fun e => decide (e.rep ≤ maxRep ((repsPs q).take n)))).length =
      ((colStream q' v).filter (fun e => decide (e.rep ≤ maxRep ((repsPs q).take n)))).length := by
  have := congrArg List.length (sibling_events_agree q q' n hn v)
  unfold events at this
  rw [List.length_map, List.length_map] at this
  exact this

/-- inverse of `toProj` -/
def fromProj {α : Type} : (r : Rep) → (ts : List Rep) → Proj α (r :: ts) → Wrap r (Proj α ts)
  | .req, _, x => x
  | .opt, _, x => x
  | .rpt, _, x => x

theorem fromProj_toProj {α : Type} (r : Rep) (ts : List Rep) (w : Wrap r (Proj α ts)) :
    fromProj r ts (toProj r ts w) = w := by cases r <;> rfl

/-- rebuild a `Wrap r γ` from the family `f` of its images under a family of maps indexed by `Q`:
the shape (present or not, length) is read off the image at `q0`, the elements are rebuilt by `g`
from the families of their images -/
def Wrap.assemble {Q γ : Type} {β : Q → Type} (zero : (q : Q) → β q) :
    (r : Rep) → Option Q → ((q : Q) → Wrap r (β q)) → (((q : Q) → β q) → γ) → Wrap r γ
  | .req, _, f, g => g f
  | .opt, none, _, _ => (Option.none : Option γ)
  | .opt, some q0, f, g =>
      match (f q0 : Option (β q0)) with
      | Option.none => (Option.none : Option γ)
      | Option.some _ => (Option.some (g (fun q => (f q : Option (β q)).getD (zero q))) : Option γ)
  | .rpt, none, _, _ => ([] : List γ)
  | .rpt, some q0, f, g =>
      ((List.range (f q0 : List (β q0)).length).map
        (fun i => g (fun q => (f q : List (β q)).getD i (zero q))) : List γ)

theorem Wrap.assemble_map {Q α : Type} {β : Q → Type} (zero : (q : Q) → β q) (r : Rep) (q0 : Q)
    (F : (q : Q) → α → β q) (g : ((q : Q) → β q) → α) (hg : ∀ x, g (fun q => F q x) = x)
    (w : Wrap r α) :
    Wrap.assemble zero r (some q0) (fun q => Wrap.map r (F q) w) g = w := by
  cases r with
  | req => exact hg w
  | opt =>
    cases w with
    | none => rfl
    | some x => exact congrArg Option.some (hg x)
  | rpt =>
    revert w
    show ∀ w : List α, (List.range (List.map (F q0) w).length).map
        (fun i => g (fun q => (List.map (F q) w).getD i (zero q))) = w
    intro w
    apply List.ext_getElem
    · simp
    · intro i h1 h2
      rw [List.getElem_map, List.getElem_range]
      rw [← hg w[i]]
      congr 1
      funext q
      simp [List.getD, h2]

mutual
/-- the first column below a node, if any -/
def firstT : (t : FTree) → Option (PathIn t)
  | .leaf n r ty => some (.leaf n r ty)
  | .group n r cs => (firstL cs).map (.group n r)
def firstL : (ts : List FTree) → Option (PathsIn ts)
  | [] => none
  | t :: ts =>
    match firstT t with
    | some p => some (.here p)
    | none => (firstL ts).map .there
end

mutual
theorem firstT_isSome : (t : FTree) → t.WF → (firstT t).isSome = true
  | .leaf _ _ _, _ => rfl
  | .group n r cs, h => by
    unfold FTree.WF at h
    unfold firstT
    rw [Option.isSome_map]
    exact firstL_isSome cs h.2.2.2 h.2.1
theorem firstL_isSome : (ts : List FTree) → WFL ts → ts ≠ [] → (firstL ts).isSome = true
  | [], _, h => absurd rfl h
  | t :: ts, h, _ => by
    unfold WFL at h
    have := firstT_isSome t h.1
    unfold firstL
    cases hf : firstT t with
    | none => rw [hf] at this; exact nomatch this
    | some p => rfl
end

mutual
/-- rebuild a value from its family of column projections (a group's own optional/list structure
is read off its first column) -/
def unprojT : (t : FTree) → ((p : PathIn t) → Proj Bytes (repsP p)) → ValOf t
  | .leaf n r ty, f => fromProj r [] (f (.leaf n r ty))
  | .group n r cs, f =>
      Wrap.assemble (fun q => zeroProj ([] : Bytes) (repsPs q)) r (firstL cs)
        (fun q => fromProj r (repsPs q) (f (.group n r q))) (unprojL cs)
def unprojL : (ts : List FTree) → ((q : PathsIn ts) → Proj Bytes (repsPs q)) → ValsOf ts
  | [], _ => ()
  | t :: ts, f => (unprojT t (fun p => f (.here p)), unprojL ts (fun q => f (.there q)))
end

mutual
theorem unprojT_projT : (t : FTree) → t.WF → ∀ v : ValOf t, unprojT t (fun p => projT p v) = v
  | .leaf n r ty, _, v => by
    unfold unprojT
    exact fromProj_toProj r [] v
  | .group n r cs, h, v => by
    unfold FTree.WF at h
    revert v
    show ∀ v : Wrap r (ValsOf cs), unprojT (.group n r cs) (fun p => projT p v) = v
    intro v
    unfold unprojT
    obtain ⟨q0, hq0⟩ := Option.isSome_iff_exists.1 (firstL_isSome cs h.2.2.2 h.2.1)
    rw [hq0]
    have : (fun q => fromProj r (repsPs q) (projT (.group n r q) v)) =
        (fun q => Wrap.map r (projL q) v) := by
      funext q
      rw [projT_group, fromProj_toProj]
    rw [this]
    exact Wrap.assemble_map _ r q0 (fun q => projL q) (unprojL cs) (unprojL_projL cs h.2.2.2) v
theorem unprojL_projL : (ts : List FTree) → WFL ts → ∀ v : ValsOf ts, unprojL ts (fun q => projL q v) = v
  | [], _, _ => rfl
  | t :: ts, h, v => by
    unfold WFL at h
    unfold unprojL
    exact Prod.ext (unprojT_projT t h.1 v.1) (unprojL_projL ts h.2 v.2)
end

theorem projT_inj : (t : FTree) → t.WF → ∀ v v' : ValOf t, (∀ p : PathIn t, projT p v = projT p v') → v = v' :=
  fun t hwf v v' h => by rw [← unprojT_projT t hwf v, funext h, unprojT_projT t hwf v']

/-- what a reader gets from one column's stream with the reference assembly (the zero value when
the stream is not a valid striping) -/
def readCol (ts : List Rep) (es : List (Entry Bytes)) : Proj Bytes ts :=
  match assembleTop ts es with
  | some (v, _) => v
  | none => zeroProj [] ts

/-- reassembly of a whole record: every column is assembled on its own, the tree is rebuilt from
the projections -/
def assembleRecord (ts : List FTree) (streams : PathsIn ts → List (Entry Bytes)) : ValsOf ts :=
  unprojL ts (fun q => readCol (repsPs q) (streams q))

theorem readCol_stripe (ts : List Rep) (v : Proj Bytes ts) (rest : List (Entry Bytes))
    (h : rest = [] ∨ ∃ e tl, rest = e :: tl ∧ e.rep = 0) :
    readCol ts (stripeTop ts v ++ rest) = v := by
  rw [readCol, PQ.C03.assemble_stripe ts v rest h]

/-- **A record is determined by its column projections** (every group of a well-formed schema has
a leaf below it, so its own optional/list structure is visible in that leaf's projection). -/
theorem record_injective (ts : List FTree) (hwf : ∀ t ∈ ts, t.WF) (v v' : ValsOf ts)
    (h : ∀ q : PathsIn ts, projCol v q = projCol v' q) : v = v' := by
  have inv := unprojL_projL ts ((WFL_iff ts).2 hwf)
  rw [← inv v, show (fun q => projL q v) = fun q => projL q v' from funext h, inv v']

/-- **Record round trip.**  A reader that assembles every column independently with the reference
`assembleTop` (each column's stream being the record's striping followed by nothing or by the next
record) and rebuilds the tree from the projections gets the original record. -/
theorem record_roundtrip (ts : List FTree) (hwf : ∀ t ∈ ts, t.WF) (v : ValsOf ts)
    (rest : PathsIn ts → List (Entry Bytes))
    (hrest : ∀ q, rest q = [] ∨ ∃ e tl, rest q = e :: tl ∧ e.rep = 0) :
    assembleRecord ts (fun q => colStream q v ++ rest q) = v := by
  unfold assembleRecord
  have : (fun q => readCol (repsPs q) (colStream q v ++ rest q)) = (fun q => projL q v) := by
    funext q
    exact readCol_stripe (repsPs q) (projL q v) (rest q) (hrest q)
  rw [this]
  exact unprojL_projL ts ((WFL_iff ts).2 hwf) v

/-- the form asked for by C03: any record whose column projections are what the reference
assembly returns from the stored streams is the original record -/
theorem record_roundtrip_unique (ts : List FTree) (hwf : ∀ t ∈ ts, t.WF) (v v' : ValsOf ts)
    (rest : PathsIn ts → List (Entry Bytes))
    (hrest : ∀ q, rest q = [] ∨ ∃ e tl, rest q = e :: tl ∧ e.rep = 0)
    (h : ∀ q : PathsIn ts, ∃ rest', assembleTop (repsPs q) (colStream q v ++ rest q) = some (projL q v', rest')) :
    v' = v := by
  apply record_injective ts hwf
  intro q
  obtain ⟨rest', hq⟩ := h q
  rw [colStream, PQ.C03.assemble_stripe _ _ _ (hrest q)] at hq
  exact ((Prod.mk.inj (Option.some.inj hq)).1).symm

/-- the `Col` the generator declares for column `q` -/
def colOf {ts : List FTree} (q : PathsIn ts) : Col := colL [] [] q

theorem colsOf_eq (ts : List FTree) : colsOf ts = (pathsL ts).map colOf :=
  colsAuxL_paths ts [] []

theorem colsOf_length (ts : List FTree) : (colsOf ts).length = (pathsL ts).length := by
  rw [colsOf_eq, List.length_map]

theorem colsOf_getElem (ts : List FTree) (i : Nat) (h : i < (colsOf ts).length) :
    (colsOf ts)[i] = colOf ((pathsL ts)[i]'(colsOf_length ts ▸ h)) := by
  simp [colsOf_eq]

theorem colOf_path {ts : List FTree} (q : PathsIn ts) : (colOf q).path = namesPs q := by
  simp [colOf, colL]

theorem colOf_reps {ts : List FTree} (q : PathsIn ts) : (colOf q).reps = declReps (repsPs q) := by
  simp [colOf, colL]

mutual
theorem repsT_length : {t : FTree} → (p : PathIn t) → (repsP p).length = (namesP p).length
  | _, .leaf _ _ _ => rfl
  | _, .group _ _ q => by
    show (repsPs q).length + 1 = (namesPs q).length + 1
    rw [repsL_length q]
theorem repsL_length : {ts : List FTree} → (q : PathsIn ts) → (repsPs q).length = (namesPs q).length
  | _, .here p => repsT_length p
  | _, .there q => repsL_length q
end

theorem declReps_levels (full : List Rep) : maxDef (declReps full) = maxDef full ∧ maxRep (declReps full) = maxRep full := by
  unfold declReps
  split
  · rename_i h
    have h0 := maxDef_of_all_req ((all_req_iff _).1 h)
    have := maxRep_le_maxDef full
    exact ⟨h0.symm, by rw [maxRep_req, maxRep_nil]; omega⟩
  · exact ⟨rfl, rfl⟩

/-- levels of a column's stream never exceed the declared column's maxima -/
theorem colStream_levels {ts : List FTree} (q : PathsIn ts) (v : ValsOf ts) :
    ∀ e ∈ colStream q v, e.dl ≤ (colOf q).maxDef ∧ e.rep ≤ (colOf q).maxRep ∧
      (e.val.isSome ↔ e.dl = (colOf q).maxDef) := by
  intro e he
  have := PQ.C03.levels_bounded (repsPs q) (projL q v) e he
  unfold Col.maxDef Col.maxRep
  rw [colOf_reps, (declReps_levels _).1, (declReps_levels _).2]
  exact this

/-- for an all-required path the projection is just the leaf value -/
theorem Proj_allReq {α : Type} : ∀ (ts : List Rep), (∀ t ∈ ts, t = Rep.req) → Proj α ts = α
  | [], _ => rfl
  | .req :: ts, h => Proj_allReq ts (fun t ht => h t (List.mem_cons_of_mem _ ht))
  | .opt :: _, h => nomatch h .opt (List.mem_cons_self ..)
  | .rpt :: _, h => nomatch h .rpt (List.mem_cons_self ..)

/-- the stream stored for a column is a striping under the *declared* `Field.Types` as well: for an
all-required path the generator declares `[req]` and the stream is the single entry `(0, 0, x)` -/
theorem colStream_declared {ts : List FTree} (q : PathsIn ts) (v : ValsOf ts) :
    ∃ w : Proj Bytes (colOf q).reps, stripeTop (colOf q).reps w = colStream q v := by
  rw [colOf_reps]
  unfold declReps
  by_cases h : ((repsPs q).all (· == Rep.req)) = true
  · rw [if_pos h]
    obtain ⟨x, hx, _⟩ := PQ.stripe_required (repsPs q) ((all_req_iff _).1 h) 0 0 0 (projL q v)
    exact ⟨x, hx.symm⟩
  · rw [if_neg h]
    exact ⟨projL q v, rfl⟩

/-- `record_injective` on the stored streams, over the column list `colsOf ts = (pathsL ts).map colOf` -/
theorem record_injective_cols (ts : List FTree) (hwf : ∀ t ∈ ts, t.WF) (v v' : ValsOf ts)
    (h : ∀ q ∈ pathsL ts, colStream q v = colStream q v') : v = v' :=
  record_injective ts hwf v v' (fun q =>
    PQ.C03.stripe_injective (repsPs q) _ _ (h q (mem_pathsL q)))

/-- the column chunk the file stores for column `q` of the records `vs` -/
def colChunk {ts : List FTree} (q : PathsIn ts) (vs : List (ValsOf ts)) : List (Entry Bytes) :=
  vs.flatMap (colStream q)

/-- the `i`-th record's worth of every column chunk, cut at the `rep = 0` entries -/
def recordStreams {ts : List FTree} (n i : Nat) (chunks : PathsIn ts → List (Entry Bytes)) :
    PathsIn ts → List (Entry Bytes) :=
  fun q => ((splitRecords n (chunks q))[i]?).getD []

theorem recordStreams_colChunk {ts : List FTree} (vs : List (ValsOf ts)) (i : Nat) (h : i < vs.length)
    (q : PathsIn ts) :
    recordStreams vs.length i (fun q => colChunk q vs) q = colStream q vs[i] := by
  unfold recordStreams colChunk
  show ((splitRecords vs.length (vs.flatMap (colStream q)))[i]?).getD [] = _
  have : vs.flatMap (colStream q) = (vs.map (projL q)).flatMap (stripeTop (repsPs q)) := by
    rw [List.flatMap_map]; rfl
  rw [this, PQ.C03.splitRecords_stripe (repsPs q) (vs.map (projL q)) vs.length (by simp)]
  simp [h, colStream]

/-- **File-level round trip of the records.**  Every column chunk is the concatenation of the
records' stripings; cutting each chunk at its `rep = 0` entries and assembling the `i`-th pieces
gives back the `i`-th record, for all records. -/
theorem records_roundtrip (ts : List FTree) (hwf : ∀ t ∈ ts, t.WF) (vs : List (ValsOf ts)) :
    (List.range vs.length).map
      (fun i => assembleRecord ts (recordStreams vs.length i (fun q => colChunk q vs))) = vs := by
  apply List.ext_getElem
  · simp
  · intro i h1 h2
    rw [List.getElem_map, List.getElem_range]
    have : recordStreams vs.length i (fun q => colChunk q vs) = fun q => colStream q vs[i] ++ [] := by
      funext q
      rw [recordStreams_colChunk vs i h2 q, List.append_nil]
    rw [this]
    exact record_roundtrip ts hwf vs[i] (fun _ => []) (fun _ => Or.inl rfl)

section Examples

/-- the `Document` schema of the Dremel paper (Melnik et al., VLDB 2010, figures 2 and 3) -/
def docSchema : List FTree :=
  [ .leaf "DocId" .req .i64,
    .group "Links" .opt [ .leaf "Backward" .rpt .i64, .leaf "Forward" .rpt .i64 ],
    .group "Name" .rpt
      [ .group "Language" .rpt [ .leaf "Code" .req .str, .leaf "Country" .opt .str ],
        .leaf "Url" .opt .str ] ]

example : ∀ t ∈ docSchema, t.WF := by decide +kernel

def pDocId : PathsIn docSchema := .here (.leaf "DocId" .req .i64)
def pBackward : PathsIn docSchema :=
  .there (.here (.group "Links" .opt (.here (.leaf "Backward" .rpt .i64))))
def pForward : PathsIn docSchema :=
  .there (.here (.group "Links" .opt (.there (.here (.leaf "Forward" .rpt .i64)))))
def pCode : PathsIn docSchema :=
  .there (.there (.here (.group "Name" .rpt (.here (.group "Language" .rpt (.here (.leaf "Code" .req .str)))))))
def pCountry : PathsIn docSchema :=
  .there (.there (.here (.group "Name" .rpt (.here (.group "Language" .rpt (.there (.here (.leaf "Country" .opt .str))))))))
def pUrl : PathsIn docSchema :=
  .there (.there (.here (.group "Name" .rpt (.there (.here (.leaf "Url" .opt .str))))))

example : pathsL docSchema = [pDocId, pBackward, pForward, pCode, pCountry, pUrl] := rfl

example : (colsOf docSchema).map (fun c => (c.path, c.reps)) =
    [ (["DocId"], [.req]),
      (["Links", "Backward"], [.opt, .rpt]),
      (["Links", "Forward"], [.opt, .rpt]),
      (["Name", "Language", "Code"], [.rpt, .rpt, .req]),
      (["Name", "Language", "Country"], [.rpt, .rpt, .opt]),
      (["Name", "Url"], [.rpt, .opt]) ] := by decide +kernel

-- byte strings: "en-us" etc. are abbreviated by one byte each
abbrev enUS : Bytes := [1]
abbrev en : Bytes := [2]
abbrev enGB : Bytes := [3]
abbrev us : Bytes := [4]
abbrev gb : Bytes := [5]
abbrev urlA : Bytes := [65]
abbrev urlB : Bytes := [66]

/-- record `r1` of the paper -/
def r1 : ValsOf docSchema :=
  ( ([10] : Bytes),
    (some (([] : List Bytes), ([[20], [40], [60]] : List Bytes), ()) :
      Option (List Bytes × List Bytes × Unit)),
    ([ ( ([ (enUS, some us, ()), (en, none, ()) ] : List (Bytes × Option Bytes × Unit)), some urlA, () ),
       ( [], some urlB, () ),
       ( [ (enGB, some gb, ()) ], none, () ) ] :
      List (List (Bytes × Option Bytes × Unit) × Option Bytes × Unit)),
    () )

/-- record `r2` of the paper -/
def r2 : ValsOf docSchema :=
  ( ([20] : Bytes),
    (some (([[10], [30]] : List Bytes), ([[80]] : List Bytes), ()) :
      Option (List Bytes × List Bytes × Unit)),
    ([ ( ([] : List (Bytes × Option Bytes × Unit)), some [67], () ) ] :
      List (List (Bytes × Option Bytes × Unit) × Option Bytes × Unit)),
    () )

example : repsPs pCode = [.rpt, .rpt, .req] ∧ repsPs pCountry = [.rpt, .rpt, .opt] ∧
    repsPs pUrl = [.rpt, .opt] ∧ repsPs pDocId = [.req] ∧ repsPs pForward = [.opt, .rpt] := by decide

example : projL pCode r1 = ([[enUS, en], [], [enGB]] : List (List Bytes)) := rfl
example : projL pCountry r1 = ([[some us, none], [], [some gb]] : List (List (Option Bytes))) := rfl
example : projL pUrl r1 = ([some urlA, some urlB, none] : List (Option Bytes)) := rfl
example : projL pForward r1 = (some [[20], [40], [60]] : Option (List Bytes)) := rfl
example : projL pBackward r1 = (some [] : Option (List Bytes)) := rfl
example : projL pDocId r1 = ([10] : Bytes) := rfl

/-- figure 3 of the paper, record `r1` -/
example : colStream pDocId r1 = [⟨0, 0, some [10]⟩] := by decide
example : colStream pBackward r1 = [⟨0, 1, none⟩] := by decide
example : colStream pForward r1 = [⟨0, 2, some [20]⟩, ⟨1, 2, some [40]⟩, ⟨1, 2, some [60]⟩] := by decide
example : colStream pCode r1 =
    [⟨0, 2, some enUS⟩, ⟨2, 2, some en⟩, ⟨1, 1, none⟩, ⟨1, 2, some enGB⟩] := by decide
example : colStream pCountry r1 =
    [⟨0, 3, some us⟩, ⟨2, 2, none⟩, ⟨1, 1, none⟩, ⟨1, 3, some gb⟩] := by decide
example : colStream pUrl r1 = [⟨0, 2, some urlA⟩, ⟨1, 2, some urlB⟩, ⟨1, 1, none⟩] := by decide
/-- … and record `r2` -/
example : colStream pBackward r2 = [⟨0, 2, some [10]⟩, ⟨1, 2, some [30]⟩] := by decide
example : colStream pCode r2 = [⟨0, 1, none⟩] := by decide
example : colStream pCountry r2 = [⟨0, 1, none⟩] := by decide

/-- common ancestors: `Code`/`Country` share `Name.Language`, `Code`/`Url` share `Name`,
`Code`/`Forward` share nothing -/
example : commonL pCode pCountry = 2 ∧ commonL pCode pUrl = 1 ∧ commonL pCode pForward = 0 ∧
    commonL pBackward pForward = 1 ∧ commonL pCode pCode = 3 := by decide

/-- the shared skeleton of `Code` and `Country` at depth 2: three names with 2, 0 and 1 languages -/
example : skeleton 2 (repsPs pCode) (projL pCode r1) =
    .list [.list [.stop, .stop], .list [], .list [.stop]] := rfl
example : skeleton 2 (repsPs pCountry) (projL pCountry r1) =
    .list [.list [.stop, .stop], .list [], .list [.stop]] := rfl
/-- at depth 3 they differ (the second `Country` is absent) -/
example : skeleton 3 (repsPs pCountry) (projL pCountry r1) =
    .list [.list [.some .stop, .none], .list [], .list [.some .stop]] := rfl
example : skeleton 3 (repsPs pCode) (projL pCode r1) =
    .list [.list [.req .stop, .req .stop], .list [], .list [.req .stop]] := rfl

/-- the events at the prefix `Name.Language` (`R = 2`, `D = 2`) and `Name` (`R = 1`, `D = 1`) -/
example : events 2 2 (colStream pCode r1) = [(0, 2), (2, 2), (1, 1), (1, 2)] ∧
    events 2 2 (colStream pCountry r1) = [(0, 2), (2, 2), (1, 1), (1, 2)] := by decide
example : events 1 1 (colStream pCode r1) = [(0, 1), (1, 1), (1, 1)] ∧
    events 1 1 (colStream pCountry r1) = [(0, 1), (1, 1), (1, 1)] ∧
    events 1 1 (colStream pUrl r1) = [(0, 1), (1, 1), (1, 1)] := by decide

/-- the reader: assembling the six streams of `r1` (each followed by the streams of `r2`) gives
back `r1` -/
example : assembleRecord docSchema (fun q => colStream q r1 ++ colStream q r2) = r1 := rfl
example : assembleRecord docSchema (fun q => colStream q r2) = r2 := rfl

/-- … and the two-record file -/
example : (List.range 2).map (fun i => assembleRecord docSchema
    (recordStreams 2 i (fun q => colChunk q [r1, r2]))) = [r1, r2] := rfl

/-- without the well-formedness hypothesis injectivity fails: a repeated group without children
has no column, the two records below have the same (empty) family of projections -/
def badSchema : List FTree := [.group "g" .rpt []]
example : ¬ (∀ t ∈ badSchema, t.WF) := by decide
example : pathsL badSchema = [] := rfl
example : (([()], ()) : List Unit × Unit) ≠ (([], ()) : List Unit × Unit) := by decide

end Examples

end PQ.Records
