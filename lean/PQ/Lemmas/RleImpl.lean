import PQ.Lemmas.RleDec
/-!
The implementation decoder (`RLE.Read`: the Go run loop with its `uint64` header arithmetic and short reads) accepts
the specification serialisation of every list of well-formed runs.
-/
namespace PQ
open PQ.Gen

/-- one step of the accumulator: with the low `s` bits of `N` in it, the next seven are or-ed in; the shifted
piece stays below `N`, so the `uint64` truncation never bites -/
theorem leb_acc (N s : Nat) (hN : N < 2 ^ 64) :
    N % 2 ^ s ||| ((N / 2 ^ s % 128) <<< s) % 2 ^ 64 = N % (2 ^ s * 128) := by
  have hle : (N / 2 ^ s % 128) <<< s ≤ N := by
    rw [Nat.shiftLeft_eq]
    exact Nat.le_trans (Nat.mul_le_mul_right _ (Nat.mod_le _ _)) (Nat.div_mul_le_self _ _)
  rw [Nat.mod_eq_of_lt (Nat.lt_of_le_of_lt hle hN), Nat.or_comm,
    ← Nat.shiftLeft_add_eq_or_of_lt (Nat.mod_lt _ (Nat.pow_pos (by decide))), Nat.shiftLeft_eq, Nat.mod_mul,
    Nat.add_comm, Nat.mul_comm]

/-- reading `N` with its low `s` bits already in the accumulator and `N / 2 ^ s` still in the input -/
theorem implReadLeb_uleb (N : Nat) (hN : N < 2 ^ 64) (rest : Bytes) (s : Nat) : ∀ fuel,
    (uleb (N / 2 ^ s)).length ≤ fuel →
    implReadLeb fuel (uleb (N / 2 ^ s) ++ rest) s (N % 2 ^ s) = .ok (N, rest) := by
  generalize hn : N / 2 ^ s = n
  induction n using uleb.induct generalizing s with
  | case1 n h ih =>
    subst hn
    rw [uleb, dif_pos h]
    intro fuel hf
    cases fuel with
    | zero => exact absurd hf (Nat.not_succ_le_zero _)
    | succ f =>
      have hdiv : N / 2 ^ (s + 7) = N / 2 ^ s / 128 := by rw [Nat.pow_add, Nat.div_div_eq_div_mul]
      have := ih (s + 7) hdiv f (Nat.le_of_succ_le_succ hf)
      rw [Nat.pow_add] at this
      rw [List.cons_append, implReadLeb, Nat.add_mod_right, Nat.mod_mod, leb_acc N s hN, if_neg (by
        rw [Nat.add_div_right _ (by decide), Nat.div_eq_of_lt (Nat.mod_lt _ (by decide))]; decide)]
      exact this
  | case2 n h =>
    subst hn
    rw [uleb, dif_neg h]
    intro fuel hf
    cases fuel with
    | zero => exact absurd hf (Nat.not_succ_le_zero _)
    | succ f =>
      have hlt : N < 2 ^ s * 128 := by
        rw [Nat.mul_comm]; exact (Nat.div_lt_iff_lt_mul (Nat.pow_pos (by decide))).mp (by omega)
      rw [List.cons_append, implReadLeb, Nat.mod_mod, leb_acc N s hN,
        if_pos (by rw [Nat.div_eq_of_lt (Nat.mod_lt _ (by decide))]), Nat.mod_eq_of_lt hlt]
      rfl

theorem implReadLeb_uleb0 (n : Nat) (rest : Bytes) (fuel : Nat) (hn : n < 2 ^ 64)
    (hf : (uleb n).length ≤ fuel) : implReadLeb fuel (uleb n ++ rest) 0 0 = .ok (n, rest) := by
  have := implReadLeb_uleb n hn rest 0 fuel
  rw [Nat.pow_zero, Nat.div_one, Nat.mod_one] at this
  exact this hf

theorem shortRead_exact (n : Nat) (a b : Bytes) (h : a.length = n) : shortRead n (a ++ b) = (a, b) := by
  subst h
  simp [shortRead]

theorem chunks_unpack (w : Nat) (hw : 1 ≤ w ∧ w ≤ 4) (gs : List (List Nat))
    (hg : ∀ g ∈ gs, g.length = 8 ∧ ∀ x ∈ g, x < 2 ^ w) :
    (chunks w gs.length (gs.flatMap (packSpec w))).flatMap (unpack w) = gs.flatten := by
  induction gs with
  | nil => rfl
  | cons g gs ih =>
    obtain ⟨h8, hv⟩ := hg g List.mem_cons_self
    rw [List.length_cons, chunks, List.flatMap_cons, List.flatMap_cons, List.flatten_cons,
      List.take_left' (packSpec_length w g), List.drop_left' (packSpec_length w g),
      ih (fun g' h' => hg g' (List.mem_cons_of_mem _ h')), ← pack_eq_packSpec' w hw g h8, unpack_pack w hw g h8 hv]

/-- header bounds of the `uint64`/`int` arithmetic in `readLEB128`/`readRLE`/`readRLEBitPacked` -/
def Run.HdrOK : Run → Prop
  | .rle c _ => c < 2 ^ 63
  | .packed gs => gs.length < 2 ^ 63

theorem implRuns_step (w : Nat) (hw : 1 ≤ w ∧ w ≤ 4) (r : Run) (hwf : r.WF w) (hh : r.HdrOK) (f : Nat)
    (tail : Bytes) : implRuns w (f + 1) (r.ser w ++ tail) = (implRuns w f tail).map (r.vals ++ ·) := by
  have hnb : (w + 7) / 8 = 1 := by omega
  have h64 : ∀ {n : Nat}, n < 2 ^ 63 → n * 2 + 1 < 2 ^ 64 := fun h => by omega
  cases r with
  | rle c v =>
    have hv : v % 256 = v := Nat.mod_eq_of_lt (Nat.lt_of_lt_of_le hwf.2 (by have := pow_le_256 w; rwa [hnb] at this))
    rw [Run.ser, List.append_assoc, implRuns, if_neg (uleb_append_ne_nil _ _),
      implReadLeb_uleb0 _ _ _ (Nat.lt_of_succ_lt (h64 hh)) (by rw [List.length_append]; exact Nat.le_add_right _ _)]
    simp only [(rle_hdr c).1, (rle_hdr c).2, if_true, hnb, leBytes, hv]
    rw [if_neg (by decide), if_neg (fun h => absurd h.2 (List.cons_ne_nil _ _)), shortRead_exact 1 [v] tail rfl]
    cases implRuns w f tail <;> rfl
  | packed gs =>
    have hl := flatMap_packSpec_length w gs
    have hbc : w * (gs.length * 8) / 8 = gs.length * w := by
      rw [← Nat.mul_assoc, Nat.mul_div_cancel _ (by decide), Nat.mul_comm]
    -- `bytes.Reader.Read` reports EOF on an empty reader: at least one group of at least one byte follows
    have hnil : ¬ (gs.flatMap (packSpec w) ++ tail = []) := fun h =>
      absurd (hl ▸ congrArg List.length (List.append_eq_nil_iff.mp h).1) (Nat.ne_of_gt (Nat.mul_pos hwf.1 hw.1))
    rw [Run.ser, List.append_assoc, implRuns, if_neg (uleb_append_ne_nil _ _),
      implReadLeb_uleb0 _ _ _ (h64 hh) (by rw [List.length_append]; exact Nat.le_add_right _ _)]
    simp only [if_neg (packed_hdr gs.length).1, (packed_hdr gs.length).2, Nat.mod_eq_of_lt hh,
      if_neg (Nat.ne_of_gt hw.1), hbc, if_neg hnil, shortRead_exact _ _ _ hl, chunks_unpack w hw gs hwf.2]
    cases implRuns w f tail <;> rfl

theorem implRuns_ser (w : Nat) (hw : 1 ≤ w ∧ w ≤ 4) (runs : List Run) (hwf : ∀ r ∈ runs, r.WF w)
    (hh : ∀ r ∈ runs, r.HdrOK) : ∀ fuel, runs.length < fuel → implRuns w fuel (serRuns w runs) = .ok (runsVals runs) := by
  induction runs with
  | nil => intro fuel _; cases fuel <;> rfl
  | cons r rs ih =>
    intro fuel hf
    cases fuel with
    | zero => exact absurd hf (Nat.not_lt_zero _)
    | succ f =>
      rw [serRuns_cons, implRuns_step w hw r (hwf r List.mem_cons_self) (hh r List.mem_cons_self),
        ih (fun r' h' => hwf r' (List.mem_cons_of_mem _ h')) (fun r' h' => hh r' (List.mem_cons_of_mem _ h')) f
          (Nat.lt_of_succ_lt_succ hf)]
      rfl

theorem implDecode_ser (w : Nat) (hw : 1 ≤ w ∧ w ≤ 4) (runs : List Run) (hwf : ∀ r ∈ runs, r.WF w)
    (hcnt : ∀ c v, Run.rle c v ∈ runs → c < 2 ^ 63)
    (hsz : (serRuns w runs).length < 2 ^ 31) (rest : Bytes) :
    implDecode w (le32 (serRuns w runs).length ++ serRuns w runs ++ rest)
      = .ok (runsVals runs, 4 + (serRuns w runs).length) := by
  rw [List.append_assoc]
  obtain ⟨ht, hd⟩ := le32_take (serRuns w runs).length (Nat.lt_trans hsz (by decide)) (serRuns w runs ++ rest)
  have hh : ∀ r ∈ runs, r.HdrOK := by
    intro r hr
    cases r with
    | rle c v => exact hcnt c v hr
    | packed gs =>
      -- a bit-packed run is at least as long as its group count
      have h1 := ser_le_serRuns w hr
      rw [Run.ser, List.length_append, flatMap_packSpec_length] at h1
      have : gs.length * 1 ≤ gs.length * w := Nat.mul_le_mul_left _ hw.1
      have h3163 : (2 : Nat) ^ 31 < 2 ^ 63 := by decide
      show gs.length < 2 ^ 63
      omega
  have hempty : ¬ ((serRuns w runs).length > 0 ∧ serRuns w runs ++ rest = []) := fun ⟨hpos, hnil⟩ =>
    absurd (congrArg List.length (List.append_eq_nil_iff.mp hnil).1) (Nat.ne_of_gt hpos)
  unfold implDecode
  rw [if_neg (by rw [List.length_append, le32_length]; exact Nat.not_lt.mpr (Nat.le_add_right _ _))]
  simp only [ht, hd, if_neg (Nat.not_le.mpr hsz), if_neg hempty, shortRead_exact _ _ rest rfl]
  rw [implRuns_ser w hw runs hwf hh _ (Nat.lt_succ_of_le (runs_length_le w runs)), Nat.add_comm]

theorem impl_decode_encode (w : Nat) (hw : 1 ≤ w ∧ w ≤ 4) (xs : List Nat)
    (hx : ∀ x ∈ xs, x < 2 ^ w) (hlen : xs.length + 8 ≤ 2 ^ 30) (rest : Bytes) :
    ∃ pad, pad < 8 ∧
      implDecode w (encode w xs ++ rest) = .ok (xs ++ List.replicate pad 0, (encode w xs).length) := by
  obtain ⟨runs, pad, henc, hwf, hcnt, hn, hvals, hpad⟩ := encode_stream w hw xs hx hlen
  have := implDecode_ser w hw runs hwf (fun c v hr => Nat.lt_trans (hcnt c v hr) (by decide)) hn rest
  exact ⟨pad, hpad, by rw [henc, this, hvals, List.length_append, le32_length]⟩

end PQ
