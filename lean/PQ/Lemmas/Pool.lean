import PQ.Model.Pool
import PQ.Lemmas.Basic
/-!
# The shared buffer pool (C13): local semantics and the ownership invariant

`outOf prog store` computes what a program gives to its sink on a private store: no heap, no pool, no other
instances.  `Inv w hs`, with the ghost `hs i` = the slots instance `i` currently holds, says that held slots are
bound to distinct allocated buffers outside the pool.  Every step of every instance keeps `Inv` and keeps, for
every instance, `pending w inst = inst.out ++ outOf inst.prog (store w inst)`.
-/
namespace PQ.Pool

theorem lookup_filter_ne (h : List (BufId × Bytes)) (b b' : BufId) (hne : b' ≠ b) :
    (h.filter (·.1 != b)).lookup b' = h.lookup b' := by
  induction h with
  | nil => rfl
  | cons p t ih =>
    obtain ⟨x, v⟩ := p
    by_cases hx : x = b
    · subst hx
      have h1 : (b' == x) = false := by simpa using hne
      simp [List.filter, List.lookup, h1, ih]
    · have h1 : (x != b) = true := by simpa using hx
      simp only [List.filter, h1, List.lookup_cons, ih]

theorem heapGet_set_same (h : List (BufId × Bytes)) (b : BufId) (v : Bytes) :
    heapGet (heapSet h b v) b = v := by
  simp [heapGet, heapSet]

theorem heapGet_set_other (h : List (BufId × Bytes)) (b b' : BufId) (v : Bytes) (hne : b' ≠ b) :
    heapGet (heapSet h b v) b' = heapGet h b' := by
  have h1 : (b' == b) = false := by simpa using hne
  simp only [heapGet, heapSet, List.lookup_cons, h1, lookup_filter_ne h b b' hne]

theorem step_none {w : World} {i k : Nat} (h : w.insts[i]? = none) : w.step i k = w := by
  simp only [World.step, h]

theorem step_nil {w : World} {i k : Nat} {inst : Inst} (h : w.insts[i]? = some inst)
    (hp : inst.prog = []) : w.step i k = w := by
  simp only [World.step, h, hp]

theorem step_get_fresh {w : World} {i k : Nat} {inst : Inst} {s rest} (h : w.insts[i]? = some inst)
    (hp : inst.prog = .get s :: rest) (hf : w.free = []) :
    w.step i k = { heap := heapSet w.heap w.next [], free := w.free, next := w.next + 1, insts := w.insts.set i { prog := rest, slots := (s, w.next) :: inst.slots, out := inst.out } } := by
  simp only [World.step, h, hp, hf, List.isEmpty_nil, if_true]

theorem step_get_reuse {w : World} {i k : Nat} {inst : Inst} {s rest} (h : w.insts[i]? = some inst)
    (hp : inst.prog = .get s :: rest) (hf : w.free ≠ []) :
    w.step i k = { heap := heapSet w.heap (w.free.getD (k % w.free.length) 0) [], free := w.free.eraseIdx (k % w.free.length), next := w.next, insts := w.insts.set i { prog := rest, slots := (s, w.free.getD (k % w.free.length) 0) :: inst.slots, out := inst.out } } := by
  simp only [World.step, h, hp, List.isEmpty_eq_false_iff.mpr hf, Bool.false_eq_true, if_false]

theorem step_fill {w : World} {i k : Nat} {inst : Inst} {s d rest b} (h : w.insts[i]? = some inst)
    (hp : inst.prog = .fill s d :: rest) (hb : inst.slots.lookup s = some b) :
    w.step i k = { heap := heapSet w.heap b d, free := w.free, next := w.next, insts := w.insts.set i { prog := rest, slots := inst.slots, out := inst.out } } := by
  simp only [World.step, h, hp, hb]

theorem step_emit {w : World} {i k : Nat} {inst : Inst} {s rest b} (h : w.insts[i]? = some inst)
    (hp : inst.prog = .emit s :: rest) (hb : inst.slots.lookup s = some b) :
    w.step i k = { heap := w.heap, free := w.free, next := w.next, insts := w.insts.set i { prog := rest, slots := inst.slots, out := inst.out ++ heapGet w.heap b } } := by
  simp only [World.step, h, hp, hb]

theorem step_put {w : World} {i k : Nat} {inst : Inst} {s rest b} (h : w.insts[i]? = some inst)
    (hp : inst.prog = .put s :: rest) (hb : inst.slots.lookup s = some b) :
    w.step i k = { heap := w.heap, free := b :: w.free, next := w.next, insts := w.insts.set i { prog := rest, slots := inst.slots, out := inst.out } } := by
  simp only [World.step, h, hp, hb]

def upd (st : Nat → Bytes) (s : Nat) (d : Bytes) : Nat → Bytes := fun x => if x = s then d else st x

/-- bytes a program gives to its sink, computed on a private store: no heap, no pool, no ids,
no other instances.  (Coincides with the model on well-bracketed programs.) -/
def outOf : List Step → (Nat → Bytes) → Bytes
  | [], _ => []
  | .get s :: rest, st => outOf rest (upd st s [])
  | .fill s d :: rest, st => outOf rest (upd st s d)
  | .emit s :: rest, st => st s ++ outOf rest st
  | .put _ :: rest, st => outOf rest st

theorem upd_congr {st1 st2 : Nat → Bytes} {s : Nat} {d : Bytes} {held : List Nat}
    (h : ∀ x ∈ held, x ≠ s → st1 x = st2 x) : ∀ x ∈ held, upd st1 s d x = upd st2 s d x := by
  intro x hx
  unfold upd
  split
  · rfl
  · exact h x hx ‹_›

/-- a well-bracketed program only looks at the store on the slots it holds -/
theorem outOf_congr : ∀ (prog : List Step) (held : List Nat) (st1 st2 : Nat → Bytes),
    WellBracketed prog held = true → (∀ s ∈ held, st1 s = st2 s) → outOf prog st1 = outOf prog st2
  | [], _, _, _, _, _ => rfl
  | .get s :: rest, held, st1, st2, hwb, hag => by
    rw [WellBracketed, Bool.and_eq_true] at hwb
    exact outOf_congr rest (s :: held) _ _ hwb.2
      (upd_congr fun x hx hne => hag x ((List.mem_cons.1 hx).resolve_left hne))
  | .fill s d :: rest, held, st1, st2, hwb, hag => by
    rw [WellBracketed, Bool.and_eq_true] at hwb
    exact outOf_congr rest held _ _ hwb.2 (upd_congr fun x hx _ => hag x hx)
  | .emit s :: rest, held, st1, st2, hwb, hag => by
    rw [WellBracketed, Bool.and_eq_true] at hwb
    rw [outOf, outOf, hag s (List.contains_iff_mem.1 hwb.1), outOf_congr rest held st1 st2 hwb.2 hag]
  | .put s :: rest, held, st1, st2, hwb, hag => by
    rw [WellBracketed, Bool.and_eq_true] at hwb
    exact outOf_congr rest _ _ _ hwb.2 fun x hx => hag x (List.mem_filter.1 hx).1

/-- the local store of an instance inside a world: slot ↦ contents of the buffer it is bound to -/
def store (w : World) (inst : Inst) : Nat → Bytes :=
  fun s => heapGet w.heap ((inst.slots.lookup s).getD 0)

/-- what the instance has emitted so far followed by what its remaining program emits locally -/
def pending (w : World) (inst : Inst) : Bytes := inst.out ++ outOf inst.prog (store w inst)

/-- instance `i` holds slot `s`, bound to buffer `b` -/
def Own (w : World) (hs : Nat → List Nat) (i s : Nat) (b : BufId) : Prop :=
  ∃ inst, w.insts[i]? = some inst ∧ s ∈ hs i ∧ inst.slots.lookup s = some b

structure Inv (w : World) (hs : Nat → List Nat) : Prop where
  free_nodup : w.free.Nodup
  free_lt : ∀ b ∈ w.free, b < w.next
  wb : ∀ i inst, w.insts[i]? = some inst → WellBracketed inst.prog (hs i) = true
  total : ∀ i inst, w.insts[i]? = some inst → ∀ s ∈ hs i, ∃ b, inst.slots.lookup s = some b
  own_lt : ∀ i s b, Own w hs i s b → b < w.next
  own_nfree : ∀ i s b, Own w hs i s b → b ∉ w.free
  own_inj : ∀ i j s t b, Own w hs i s b → Own w hs j t b → i = j ∧ s = t

/-- the natural well-formedness of an initial world: any heap (arbitrary stale bytes), any pool of
distinct already-allocated ids, instances that hold nothing and follow the discipline -/
structure World.WF (w : World) : Prop where
  free_nodup : w.free.Nodup
  free_lt : ∀ b ∈ w.free, b < w.next
  slots_nil : ∀ inst ∈ w.insts, inst.slots = []
  wb : ∀ inst ∈ w.insts, WellBracketed inst.prog [] = true

theorem World.WF.inv {w : World} (h : w.WF) : Inv w (fun _ => []) where
  free_nodup := h.free_nodup
  free_lt := h.free_lt
  wb := fun _ inst hi => h.wb inst (List.mem_of_getElem? hi)
  total := fun _ _ _ _ hs => absurd hs (List.not_mem_nil)
  own_lt := fun _ _ _ ⟨_, _, hs, _⟩ => absurd hs (List.not_mem_nil)
  own_nfree := fun _ _ _ ⟨_, _, hs, _⟩ => absurd hs (List.not_mem_nil)
  own_inj := fun _ _ _ _ _ ⟨_, _, hs, _⟩ => absurd hs (List.not_mem_nil)

theorem getElem?_set_some {α} {l : List α} {i j : Nat} {a x : α} (h : (l.set i a)[j]? = some x) :
    (j = i ∧ x = a) ∨ (j ≠ i ∧ l[j]? = some x) := by
  rw [List.getElem?_set] at h
  by_cases hij : i = j
  · rw [if_pos hij] at h
    split at h
    · left; exact ⟨hij.symm, (Option.some.inj h).symm⟩
    · cases h
  · rw [if_neg hij] at h
    right; exact ⟨fun e => hij e.symm, h⟩

theorem forall_getElem?_set {α} {l : List α} {i : Nat} {a : α} {P : Nat → α → Prop} (hi : P i a)
    (ho : ∀ j x, j ≠ i → l[j]? = some x → P j x) : ∀ j x, (l.set i a)[j]? = some x → P j x := by
  intro j x hx
  rcases getElem?_set_some hx with ⟨rfl, rfl⟩ | ⟨hne, hx'⟩
  · exact hi
  · exact ho j x hne hx'

/-- result of one step: the invariant survives (with an updated ghost), and every instance's
`pending` is unchanged; the acting instance's program loses its head, the others' are untouched -/
def StepOK (w : World) (i : Nat) (w' : World) : Prop :=
  (∃ hs', Inv w' hs') ∧ w'.insts.length = w.insts.length ∧
  ∀ j instj, w.insts[j]? = some instj →
    ∃ inst', w'.insts[j]? = some inst' ∧ pending w' inst' = pending w instj ∧
      inst'.prog = (if j = i then instj.prog.tail else instj.prog)

theorem stepOK_refl {w : World} {hs} (hI : Inv w hs) {i : Nat}
    (h : ∀ inst, w.insts[i]? = some inst → inst.prog = []) : StepOK w i w := by
  refine ⟨⟨hs, hI⟩, rfl, fun j instj hj => ⟨instj, hj, rfl, ?_⟩⟩
  by_cases hji : j = i
  · subst hji; rw [if_pos rfl, h instj hj]; rfl
  · rw [if_neg hji]

/-- a step that replaces instance `i` by `inst'`; `hagree`: the buffers the other instances own keep their contents -/
theorem stepOK_set {w : World} {hs} (hI : Inv w hs) {i : Nat} {inst inst' : Inst} (hi : w.insts[i]? = some inst)
    {w' : World} (hins : w'.insts = w.insts.set i inst') (hinv : ∃ hs', Inv w' hs')
    (hprog : inst'.prog = inst.prog.tail) (hself : pending w' inst' = pending w inst)
    (hagree : ∀ j t c, j ≠ i → Own w hs j t c → heapGet w'.heap c = heapGet w.heap c) : StepOK w i w' := by
  refine ⟨hinv, by rw [hins, List.length_set], fun j instj hj => ?_⟩
  by_cases hji : j = i
  · subst hji
    rw [hi] at hj; cases hj
    exact ⟨inst', by rw [hins, List.getElem?_set_self (List.getElem?_eq_some_iff.mp hi).1], hself, by rw [if_pos rfl, hprog]⟩
  · refine ⟨instj, by rw [hins, List.getElem?_set_ne (fun e => hji e.symm)]; exact hj, ?_, by rw [if_neg hji]⟩
    unfold pending
    congr 1
    apply outOf_congr _ (hs j) _ _ (hI.wb j instj hj)
    intro x hx
    obtain ⟨c, hc⟩ := hI.total j instj hj x hx
    simp only [store, hc, Option.getD_some]
    exact hagree j x c hji ⟨instj, hj, hx, hc⟩

/-- `get`, for any buffer `b` that is new to everybody (fresh, or taken out of the pool) -/
theorem stepOK_get {w : World} {hs} (hI : Inv w hs) {i : Nat} {inst : Inst} {s : Nat} {rest : List Step}
    (hi : w.insts[i]? = some inst) (hp : inst.prog = .get s :: rest)
    (hs_new : s ∉ hs i) (hwb_rest : WellBracketed rest (s :: hs i) = true)
    {b : BufId} {free' : List BufId} {next' : Nat}
    (hnext : w.next ≤ next') (hb_lt : b < next') (hb_nf : b ∉ free')
    (hb_new : ∀ j t, ¬ Own w hs j t b) (hf_nd : free'.Nodup) (hf_sub : ∀ x ∈ free', x ∈ w.free) :
    StepOK w i { heap := heapSet w.heap b [], free := free', next := next', insts := w.insts.set i { prog := rest, slots := (s, b) :: inst.slots, out := inst.out } } := by
  let hs' : Nat → List Nat := fun j => if j = i then s :: hs i else hs j
  have hs'_i : hs' i = s :: hs i := by simp only [hs', if_true]
  have hs'_ne : ∀ j, j ≠ i → hs' j = hs j := fun j h => by simp only [hs', if_neg h]
  -- ownership after the step: the new binding, or an old one
  have hchar : ∀ j t c, Own { heap := heapSet w.heap b [], free := free', next := next', insts := w.insts.set i { prog := rest, slots := (s, b) :: inst.slots, out := inst.out } } hs' j t c →
      (j = i ∧ t = s ∧ c = b) ∨ Own w hs j t c := by
    rintro j t c ⟨x, hx, ht, hl⟩
    rcases getElem?_set_some hx with ⟨rfl, rfl⟩ | ⟨hne, hx'⟩
    · rw [hs'_i] at ht
      by_cases hts : t = s
      · subst hts
        rw [List.lookup_cons_self] at hl
        exact Or.inl ⟨rfl, rfl, (Option.some.inj hl).symm⟩
      · rw [lookup_cons_ne' hts] at hl
        exact Or.inr ⟨inst, hi, (List.mem_cons.1 ht).resolve_left hts, hl⟩
    · rw [hs'_ne j hne] at ht
      exact Or.inr ⟨x, hx', ht, hl⟩
  refine stepOK_set hI hi rfl ⟨hs', ?_⟩ (by rw [hp]; rfl) ?_ fun j t c _ ho =>
    heapGet_set_other _ _ _ _ fun e => hb_new j t (e ▸ ho)
  · constructor
    · exact hf_nd
    · intro x hx; exact Nat.lt_of_lt_of_le (hI.free_lt x (hf_sub x hx)) hnext
    · exact forall_getElem?_set (by rw [hs'_i]; exact hwb_rest) fun j x hne hx => by rw [hs'_ne j hne]; exact hI.wb j x hx
    · refine forall_getElem?_set (fun t ht => ?_)
        (fun j x hne hx t ht => hI.total j x hx t (hs'_ne j hne ▸ ht))
      rw [hs'_i] at ht
      by_cases hts : t = s
      · subst hts; exact ⟨b, List.lookup_cons_self⟩
      · rw [lookup_cons_ne' hts]; exact hI.total i inst hi t ((List.mem_cons.1 ht).resolve_left hts)
    · intro j t c ho
      rcases hchar j t c ho with ⟨_, _, rfl⟩ | h
      · exact hb_lt
      · exact Nat.lt_of_lt_of_le (hI.own_lt j t c h) hnext
    · intro j t c ho
      rcases hchar j t c ho with ⟨_, _, rfl⟩ | h
      · exact hb_nf
      · exact fun hm => hI.own_nfree j t c h (hf_sub c hm)
    · intro j1 j2 t1 t2 c ho1 ho2
      rcases hchar j1 t1 c ho1 with ⟨rfl, rfl, rfl⟩ | h1
      · rcases hchar j2 t2 c ho2 with ⟨rfl, rfl, _⟩ | h2
        · exact ⟨rfl, rfl⟩
        · exact absurd h2 (hb_new _ _)
      · rcases hchar j2 t2 c ho2 with ⟨_, _, rfl⟩ | h2
        · exact absurd h1 (hb_new _ _)
        · exact hI.own_inj j1 j2 t1 t2 c h1 h2
  · unfold pending
    rw [hp]
    simp only [outOf]
    congr 1
    apply outOf_congr _ (s :: hs i) _ _ hwb_rest
    intro x hx
    by_cases hxs : x = s
    · subst hxs
      simp only [store, upd, List.lookup_cons_self, Option.getD_some, heapGet_set_same, if_true]
    · have hx' := (List.mem_cons.1 hx).resolve_left hxs
      obtain ⟨c, hc⟩ := hI.total i inst hi x hx'
      have hcb : c ≠ b := fun e => hb_new i x (e ▸ ⟨inst, hi, hx', hc⟩)
      simp only [store, upd, lookup_cons_ne' hxs, hc, Option.getD_some, if_neg hxs,
        heapGet_set_other _ _ _ _ hcb]

/-- `fill`, `emit`: only the heap and `i`'s program and output change -/
theorem Inv.set_same {w : World} {hs} (hI : Inv w hs) {i : Nat} {inst inst' : Inst}
    (hi : w.insts[i]? = some inst) (hsl : inst'.slots = inst.slots)
    (hwb : WellBracketed inst'.prog (hs i) = true) (heap' : List (BufId × Bytes)) :
    Inv { heap := heap', free := w.free, next := w.next, insts := w.insts.set i inst' } hs := by
  -- nobody's bindings or held slots change: ownership is as before
  have hback : ∀ j t c, Own { heap := heap', free := w.free, next := w.next, insts := w.insts.set i inst' } hs j t c → Own w hs j t c := by
    rintro j t c ⟨x, hx, ht, hl⟩
    rcases getElem?_set_some hx with ⟨rfl, rfl⟩ | ⟨_, hx'⟩
    · exact ⟨inst, hi, ht, hsl ▸ hl⟩
    · exact ⟨x, hx', ht, hl⟩
  constructor
  · exact hI.free_nodup
  · exact hI.free_lt
  · exact forall_getElem?_set hwb fun j x _ hx => hI.wb j x hx
  · exact forall_getElem?_set
      (fun t ht => hsl ▸ hI.total i inst hi t ht) fun j x _ hx t ht => hI.total j x hx t ht
  · intro j t c ho; exact hI.own_lt j t c (hback j t c ho)
  · intro j t c ho; exact hI.own_nfree j t c (hback j t c ho)
  · intro j1 j2 t1 t2 c ho1 ho2; exact hI.own_inj j1 j2 t1 t2 c (hback _ _ _ ho1) (hback _ _ _ ho2)

theorem stepOK_fill {w : World} {hs} (hI : Inv w hs) {i : Nat} {inst : Inst} {s : Nat} {d : Bytes}
    {rest : List Step} {b : BufId}
    (hi : w.insts[i]? = some inst) (hp : inst.prog = .fill s d :: rest) (hb : inst.slots.lookup s = some b)
    (hs_held : s ∈ hs i) (hwb_rest : WellBracketed rest (hs i) = true) :
    StepOK w i { heap := heapSet w.heap b d, free := w.free, next := w.next, insts := w.insts.set i { prog := rest, slots := inst.slots, out := inst.out } } := by
  have hown : Own w hs i s b := ⟨inst, hi, hs_held, hb⟩
  refine stepOK_set hI hi rfl ⟨hs, hI.set_same (inst' := ⟨rest, inst.slots, inst.out⟩) hi rfl hwb_rest _⟩
    (by rw [hp]; rfl) ?_ fun j t c hji ho => heapGet_set_other _ _ _ _ fun e => hji (hI.own_inj j i t s b (e ▸ ho) hown).1
  unfold pending
  rw [hp]
  simp only [outOf]
  congr 1
  apply outOf_congr _ (hs i) _ _ hwb_rest
  intro x hx
  by_cases hxs : x = s
  · subst hxs
    simp only [store, upd, hb, Option.getD_some, heapGet_set_same, if_true]
  · obtain ⟨c, hc⟩ := hI.total i inst hi x hx
    have hcb : c ≠ b := fun e => hxs (hI.own_inj i i x s b (e ▸ ⟨inst, hi, hx, hc⟩) hown).2
    simp only [store, upd, hc, Option.getD_some, if_neg hxs, heapGet_set_other _ _ _ _ hcb]

theorem stepOK_emit {w : World} {hs} (hI : Inv w hs) {i : Nat} {inst : Inst} {s : Nat}
    {rest : List Step} {b : BufId}
    (hi : w.insts[i]? = some inst) (hp : inst.prog = .emit s :: rest) (hb : inst.slots.lookup s = some b)
    (hwb_rest : WellBracketed rest (hs i) = true) :
    StepOK w i { heap := w.heap, free := w.free, next := w.next, insts := w.insts.set i { prog := rest, slots := inst.slots, out := inst.out ++ heapGet w.heap b } } := by
  refine stepOK_set hI hi rfl ⟨hs, hI.set_same (inst' := ⟨rest, inst.slots, inst.out ++ heapGet w.heap b⟩) hi rfl hwb_rest _⟩
    (by rw [hp]; rfl) ?_ fun _ _ _ _ _ => rfl
  unfold pending
  rw [hp]
  simp only [outOf, store, hb, Option.getD_some, List.append_assoc]
  rfl

theorem stepOK_put {w : World} {hs} (hI : Inv w hs) {i : Nat} {inst : Inst} {s : Nat}
    {rest : List Step} {b : BufId}
    (hi : w.insts[i]? = some inst) (hp : inst.prog = .put s :: rest) (hb : inst.slots.lookup s = some b)
    (hs_held : s ∈ hs i) (hwb_rest : WellBracketed rest ((hs i).filter (· != s)) = true) :
    StepOK w i { heap := w.heap, free := b :: w.free, next := w.next, insts := w.insts.set i { prog := rest, slots := inst.slots, out := inst.out } } := by
  have hown : Own w hs i s b := ⟨inst, hi, hs_held, hb⟩
  let hs' : Nat → List Nat := fun j => if j = i then (hs i).filter (· != s) else hs j
  have hs'_i : hs' i = (hs i).filter (· != s) := by simp only [hs', if_true]
  have hs'_ne : ∀ j, j ≠ i → hs' j = hs j := fun j h => by simp only [hs', if_neg h]
  -- ownership after the step: an old binding other than the one given up
  have hchar : ∀ j t c, Own { heap := w.heap, free := b :: w.free, next := w.next, insts := w.insts.set i { prog := rest, slots := inst.slots, out := inst.out } } hs' j t c →
      Own w hs j t c ∧ ¬ (j = i ∧ t = s) := by
    rintro j t c ⟨x, hx, ht, hl⟩
    rcases getElem?_set_some hx with ⟨rfl, rfl⟩ | ⟨hne, hx'⟩
    · rw [hs'_i] at ht
      have := List.mem_filter.1 ht
      exact ⟨⟨inst, hi, this.1, hl⟩, fun h => by simpa [h.2] using this.2⟩
    · rw [hs'_ne j hne] at ht
      exact ⟨⟨x, hx', ht, hl⟩, fun h => hne h.1⟩
  refine stepOK_set hI hi rfl ⟨hs', ?_⟩ (by rw [hp]; rfl) (by unfold pending; rw [hp]; rfl) fun _ _ _ _ _ => rfl
  constructor
  · exact List.nodup_cons.2 ⟨hI.own_nfree i s b hown, hI.free_nodup⟩
  · intro x hx
    rcases List.mem_cons.1 hx with rfl | h
    · exact hI.own_lt i s x hown
    · exact hI.free_lt x h
  · exact forall_getElem?_set (by rw [hs'_i]; exact hwb_rest) fun j x hne hx => by rw [hs'_ne j hne]; exact hI.wb j x hx
  · exact forall_getElem?_set (a := ⟨rest, inst.slots, inst.out⟩)
      (fun t ht => hI.total i inst hi t (List.mem_filter.1 (hs'_i ▸ ht)).1)
      fun j x hne hx t ht => hI.total j x hx t (hs'_ne j hne ▸ ht)
  · intro j t c ho; exact hI.own_lt j t c (hchar j t c ho).1
  · intro j t c ho hm
    obtain ⟨h1, h2⟩ := hchar j t c ho
    rcases List.mem_cons.1 hm with rfl | h
    · exact h2 (hI.own_inj j i t s c h1 hown)
    · exact hI.own_nfree j t c h1 h
  · intro j1 j2 t1 t2 c ho1 ho2
    exact hI.own_inj j1 j2 t1 t2 c (hchar _ _ _ ho1).1 (hchar _ _ _ ho2).1

theorem stepOK_step {w : World} {hs} (hI : Inv w hs) (i k : Nat) : StepOK w i (w.step i k) := by
  cases hi : w.insts[i]? with
  | none => rw [step_none hi]; exact stepOK_refl hI (fun inst h => by rw [hi] at h; cases h)
  | some inst =>
    cases hp : inst.prog with
    | nil =>
      rw [step_nil hi hp]
      exact stepOK_refl hI (fun inst' h => by rw [hi] at h; cases h; exact hp)
    | cons st rest =>
      have hwb := hI.wb i inst hi
      rw [hp] at hwb
      cases st with
      | get s =>
        simp only [WellBracketed, Bool.and_eq_true, Bool.not_eq_true', ← Bool.not_eq_true, List.contains_iff_mem] at hwb
        by_cases hf : w.free = []
        · rw [step_get_fresh hi hp hf]
          apply stepOK_get hI hi hp hwb.1 hwb.2 (Nat.le_succ _) (Nat.lt_succ_self _)
          · rw [hf]; exact List.not_mem_nil
          · intro j t ho; exact Nat.lt_irrefl _ (hI.own_lt j t _ ho)
          · rw [hf]; exact List.nodup_nil
          · intro x hx; exact hx
        · rw [step_get_reuse hi hp hf]
          have hlen : 0 < w.free.length := List.length_pos_iff.2 hf
          have hk : k % w.free.length < w.free.length := Nat.mod_lt _ hlen
          have hget : w.free[k % w.free.length]? = some (w.free.getD (k % w.free.length) 0) := by
            rw [List.getD_eq_getElem?_getD, List.getElem?_eq_getElem hk]; rfl
          have hmem : w.free.getD (k % w.free.length) 0 ∈ w.free := List.mem_of_getElem? hget
          apply stepOK_get hI hi hp hwb.1 hwb.2 (Nat.le_refl _) (hI.free_lt _ hmem)
          · intro hm
            obtain ⟨i', hne, hi'⟩ := List.mem_eraseIdx_iff_getElem?.1 hm
            exact hne (((List.getElem?_inj hk hI.free_nodup).1 (hget.trans hi'.symm)).symm)
          · intro j t ho; exact hI.own_nfree j t _ ho hmem
          · exact hI.free_nodup.eraseIdx _
          · intro x hx; exact List.mem_of_mem_eraseIdx hx
      | fill s d =>
        simp only [WellBracketed, Bool.and_eq_true, List.contains_iff_mem] at hwb
        obtain ⟨b, hb⟩ := hI.total i inst hi s hwb.1
        rw [step_fill hi hp hb]; exact stepOK_fill hI hi hp hb hwb.1 hwb.2
      | emit s =>
        simp only [WellBracketed, Bool.and_eq_true, List.contains_iff_mem] at hwb
        obtain ⟨b, hb⟩ := hI.total i inst hi s hwb.1
        rw [step_emit hi hp hb]; exact stepOK_emit hI hi hp hb hwb.2
      | put s =>
        simp only [WellBracketed, Bool.and_eq_true, List.contains_iff_mem] at hwb
        obtain ⟨b, hb⟩ := hI.total i inst hi s hwb.1
        rw [step_put hi hp hb]; exact stepOK_put hI hi hp hb hwb.1 hwb.2

/-- how many times instance `j` is scheduled -/
def turns (j : Nat) (sched : List (Nat × Nat)) : Nat := sched.countP (fun p => p.1 == j)

/-- **any schedule** keeps the invariant and every instance's `pending`; an instance's remaining
program is its original program minus one step per turn it got -/
theorem run_ok : ∀ (sched : List (Nat × Nat)) {w : World} {hs : Nat → List Nat}, Inv w hs →
    (∃ hs', Inv (w.run sched) hs') ∧ (w.run sched).insts.length = w.insts.length ∧
    ∀ j instj, w.insts[j]? = some instj →
      ∃ inst', (w.run sched).insts[j]? = some inst' ∧ pending (w.run sched) inst' = pending w instj ∧
        inst'.prog = instj.prog.drop (turns j sched)
  | [], w, hs, hI => ⟨⟨hs, hI⟩, rfl, fun j instj hj => ⟨instj, hj, rfl, rfl⟩⟩
  | (i, k) :: rest, w, hs, hI => by
    obtain ⟨⟨hs1, hI1⟩, hlen1, hstep⟩ := stepOK_step hI i k
    obtain ⟨hinv, hlen, hrest⟩ := run_ok rest hI1
    refine ⟨hinv, hlen.trans hlen1, ?_⟩
    intro j instj hj
    obtain ⟨inst1, h1, hp1, hprog1⟩ := hstep j instj hj
    obtain ⟨inst', h', hp', hprog'⟩ := hrest j inst1 h1
    refine ⟨inst', h', hp'.trans hp1, ?_⟩
    rw [hprog', hprog1]
    unfold turns
    by_cases hji : j = i
    · subst hji
      rw [if_pos rfl, List.drop_tail, List.countP_cons_of_pos (by simp)]
    · rw [if_neg hji, List.countP_cons_of_neg (by simpa using fun e => hji e.symm)]

/-- on a world where nobody holds anything, `pending` is the local semantics on any store -/
theorem pending_of_wf {w : World} (hwf : w.WF) {inst : Inst} (hm : inst ∈ w.insts) (st : Nat → Bytes) :
    pending w inst = inst.out ++ outOf inst.prog st := by
  unfold pending
  congr 1
  exact outOf_congr _ [] _ _ (hwf.wb inst hm) (fun _ h => absurd h List.not_mem_nil)

theorem turns_replicate (j n k : Nat) : turns j (List.replicate n (j, k)) = n := by
  unfold turns
  rw [List.countP_replicate]
  simp

theorem seqOut_eq_outOf (prog : List Step) (hwb : WellBracketed prog [] = true) (st : Nat → Bytes) :
    seqOut prog = outOf prog st := by
  have hwf : World.WF { heap := [], free := [], next := 0, insts := [{ prog := prog }] } := by
    constructor
    · exact List.nodup_nil
    · intro b hb; exact absurd hb List.not_mem_nil
    · intro inst hm; rw [List.mem_singleton.1 hm]
    · intro inst hm; rw [List.mem_singleton.1 hm]; exact hwb
  obtain ⟨_, _, h⟩ := run_ok (List.replicate prog.length (0, 0)) hwf.inv
  obtain ⟨inst', h1, h2, h3⟩ := h 0 { prog := prog } rfl
  rw [turns_replicate] at h3
  have h3' : inst'.prog = [] := by rw [h3]; exact List.drop_of_length_le (Nat.le_refl _)
  have hout : inst'.out = outOf prog st := by
    have := h2
    rw [pending_of_wf hwf (List.mem_singleton.2 rfl) st] at this
    unfold pending at this
    rw [h3'] at this
    simpa [outOf] using this
  unfold seqOut
  simp only [List.headD_eq_head?_getD, List.head?_eq_getElem?, h1, Option.getD_some]
  exact hout

def maxLen : List Inst → Nat
  | [] => 0
  | a :: l => max a.prog.length (maxLen l)

theorem le_maxLen : ∀ {l : List Inst} {a : Inst}, a ∈ l → a.prog.length ≤ maxLen l
  | b :: l, a, h => by
    rcases List.mem_cons.1 h with rfl | h
    · exact Nat.le_max_left _ _
    · exact Nat.le_trans (le_maxLen h) (Nat.le_max_right _ _)

/-- round robin in blocks: every listed instance gets `n` consecutive turns -/
def blocks (n : Nat) : List Nat → List (Nat × Nat)
  | [] => []
  | j :: js => List.replicate n (j, 0) ++ blocks n js

theorem turns_blocks (n : Nat) : ∀ (js : List Nat) (j : Nat), j ∈ js → n ≤ turns j (blocks n js)
  | j' :: js, j, h => by
    unfold blocks turns
    rw [List.countP_append]
    rcases List.mem_cons.1 h with rfl | h
    · have := turns_replicate j n 0
      unfold turns at this
      rw [this]; exact Nat.le_add_right _ _
    · exact Nat.le_trans (turns_blocks n js j h) (Nat.le_add_left _ _)

end PQ.Pool
