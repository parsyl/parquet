import PQ.Lemmas.PageRT
import PQ.Props.C12
/-!
# C12 on the bytes: the statistics the independent parser reads from a written page are sound

`PQ/Props/C12.lean` proves the property of the accumulator (`pageStats`, `Stats.result`).  Here it is
carried to the file: the `Statistics` struct `pageBytes` serialises (`statsT`, thrift fields
3 = null_count, 5 = max_value, 6 = min_value) is what the independent parser reads back
(`specPage_pageBytes_codec`), and `statsUnsound` (`PQ/Model/Spec.lean`), the executable statement of
C12 on a parsed page, answers `none` on it.  `StatsSound` is that statement as a `Prop`.
-/
namespace PQ
open PQ.Thrift PQ.C12

theorem statsFields_get (r : Option Nat × Option Bytes × Option Bytes) :
    getI64 (statsFields r) 3 = r.1.map (fun (n : Nat) => (n : Int)) ∧
    getBin (statsFields r) 6 = r.2.1 ∧
    getBin (statsFields r) 5 = r.2.2 := by
  obtain ⟨a, b, c⟩ := r
  cases a <;> cases b <;> cases c <;> exact ⟨rfl, rfl, rfl⟩

theorem isNaNVal_eq (ty : PType) (v : Bytes) : isNaNVal ty v = isNaN ty v := by
  cases ty <;> rfl

theorem striped_of_wfPage {c : Col} {es : PageEntries} (hwf : WFPage c es) :
    Striped (if c.isRequired then 0 else c.maxDef) es := by
  intro e he
  have h := hwf.entries e he
  by_cases hr : c.isRequired = true
  · rw [if_pos hr] at h ⊢
    obtain ⟨_, hd, hv⟩ := h
    rw [hd]
    exact ⟨Nat.le_refl _, fun _ => rfl, fun _ => hv⟩
  · rw [if_neg hr] at h ⊢
    exact ⟨h.1, h.2.2⟩

theorem result_min_max_isSome (ty : PType) (required : Bool) (s : Stats) :
    (s.result ty required).2.1.isSome = (s.result ty required).2.2.isSome := by
  rw [result_bounds]; split <;> rfl

/-- C12 for one page as the independent parser sees it: null_count, absence, `min ≤ v`, `v ≤ max`.
`le c.ty m v` is `vLt c.ty v m = false`, which holds vacuously against a NaN `m`; hence the second
half of the last two clauses: a NaN bound is only tolerated on a page all of whose values are NaN -/
def StatsSound (c : Col) (pg : SpecPage) : Prop :=
  (∀ n, getI64 (pg.stats.getD []) 3 = some n →
    n = ((pg.entries.filter fun e => e.val.isNone).length : Int)) ∧
  (pg.entries.filterMap (·.val) = [] →
    getBin (pg.stats.getD []) 6 = none ∧ getBin (pg.stats.getD []) 5 = none) ∧
  (∀ m, getBin (pg.stats.getD []) 6 = some m →
    (∀ v ∈ pg.entries.filterMap (·.val), isNaNVal c.ty v = false → le c.ty m v) ∧
    (isNaNVal c.ty m = true → ∀ v ∈ pg.entries.filterMap (·.val), isNaNVal c.ty v = true)) ∧
  (∀ m, getBin (pg.stats.getD []) 5 = some m →
    (∀ v ∈ pg.entries.filterMap (·.val), isNaNVal c.ty v = false → le c.ty v m) ∧
    (isNaNVal c.ty m = true → ∀ v ∈ pg.entries.filterMap (·.val), isNaNVal c.ty v = true))

private theorem ite_some_eq_none {α : Type} {A : Prop} [Decidable A] (x : α) (y : Option α) :
    (if A then some x else y) = none ↔ ¬ A ∧ y = none := by
  by_cases hA : A <;> simp [hA]

/-- the oracle's arm for one bound `m` (`lt := (vLt ty · m)` for min, `(vLt ty m ·)` for max,
`b` = "`m` is NaN") -/
private theorem boundArm_eq_none (vs : List Bytes) (nan lt : Bytes → Bool) (b : Bool) (s t : String) :
    (if (vs.filter fun v => !nan v).any lt = true then some s
      else if b = true ∧ (!(vs.filter fun v => !nan v).isEmpty) = true then some t else none) = none ↔
    (∀ v ∈ vs, nan v = false → lt v = false) ∧ (b = true → ∀ v ∈ vs, nan v = true) := by
  rw [ite_some_eq_none, ite_some_eq_none]
  simp only [and_true, Bool.not_eq_true, List.any_eq_false, List.mem_filter, Bool.not_eq_eq_eq_not,
    Bool.not_true, and_imp, not_and, Bool.not_eq_false, List.isEmpty_iff, List.filter_eq_nil_iff]

/-- **the oracle decides the proposition**: each arm of its `<|>` chain answers `none` exactly when
its clause holds -/
theorem statsUnsound_eq_none_iff (c : Col) (pg : SpecPage) :
    statsUnsound c pg = none ↔ StatsSound c pg := by
  unfold statsUnsound StatsSound
  simp only [Option.orElse_eq_orElse, Option.orElse_eq_or, Option.or_eq_none_iff]
  refine and_congr ?_ (and_congr ?_ (and_congr ?_ ?_))
  · cases getI64 (pg.stats.getD []) 3 <;> simp
  · rw [ite_some_eq_none]
    simp only [and_true, List.isEmpty_iff, not_and, not_or, Option.not_isSome_iff_eq_none]
  · cases getBin (pg.stats.getD []) 6 with
    | none => exact ⟨fun _ _ => nofun, fun _ => rfl⟩
    | some m =>
      simp only [Option.some.injEq, forall_eq']
      exact boundArm_eq_none _ _ _ _ _ _
  · cases getBin (pg.stats.getD []) 5 with
    | none => exact ⟨fun _ _ => nofun, fun _ => rfl⟩
    | some m =>
      simp only [Option.some.injEq, forall_eq']
      exact boundArm_eq_none _ _ _ _ _ _

theorem written_null_count_optional (c : Col) (es : PageEntries) (hwf : WFPage c es)
    (hr : c.isRequired = false) :
    getI64 (pageStatsFields c es) 3 = some ((es.filter fun e => e.val.isNone).length : Int) := by
  have h1 := null_count_exact_striped c.ty (striped_of_wfPage hwf)
  simp only [pageStatsFields, statsFields_get, pageStats_eq, result_nulls]
  rw [hr] at h1 ⊢
  rw [h1]; rfl

/-- clause 1 of `StatsSound` (an `OptionalField` always writes a null_count, a `RequiredField` never) -/
theorem written_null_count (c : Col) (es : PageEntries) (hwf : WFPage c es) (n : Int)
    (hn : getI64 (pageStatsFields c es) 3 = some n) :
    n = ((es.filter fun e => e.val.isNone).length : Int) ∧ c.isRequired = false := by
  cases hr : c.isRequired with
  | true =>
    simp only [pageStatsFields, statsFields_get, pageStats_eq, result_nulls, hr] at hn
    cases hn
  | false =>
    rw [written_null_count_optional c es hwf hr] at hn
    exact ⟨(Option.some.inj hn).symm, rfl⟩

theorem written_min_max (c : Col) (es : PageEntries) (hwf : WFPage c es) :
    (∀ m, getBin (pageStatsFields c es) 6 = some m → ∃ mx, getBin (pageStatsFields c es) 5 = some mx) ∧
    (∀ m, getBin (pageStatsFields c es) 5 = some m → ∃ mn, getBin (pageStatsFields c es) 6 = some mn) ∧
    ∀ mn mx, getBin (pageStatsFields c es) 6 = some mn → getBin (pageStatsFields c es) 5 = some mx →
      isNaN c.ty mn = false ∧ isNaN c.ty mx = false ∧
      ∀ v ∈ es.filterMap (·.val), isNaN c.ty v = false → le c.ty mn v ∧ le c.ty v mx := by
  simp only [pageStatsFields, statsFields_get]
  refine ⟨fun m hm => Option.isSome_iff_exists.1 ?_, fun m hm => Option.isSome_iff_exists.1 ?_,
    fun mn mx hmn hmx => ?_⟩
  · rw [← result_min_max_isSome, hm]; rfl
  · rw [result_min_max_isSome, hm]; rfl
  · obtain ⟨_, p2, _⟩ := page_stats_sound c es (striped_of_wfPage hwf)
    obtain ⟨n1, n2, b⟩ := p2 mn mx hmn hmx
    exact ⟨n1, n2, fun v hv hnan => let ⟨e, he, hev⟩ := List.mem_filterMap.1 hv; b e he v hev hnan⟩

theorem written_min (c : Col) (es : PageEntries) (hwf : WFPage c es) (m : Bytes)
    (hm : getBin (pageStatsFields c es) 6 = some m) :
    isNaN c.ty m = false ∧ ∀ v ∈ es.filterMap (·.val), isNaN c.ty v = false → le c.ty m v := by
  obtain ⟨h1, _, h3⟩ := written_min_max c es hwf
  obtain ⟨mx, hmx⟩ := h1 m hm
  exact ⟨(h3 m mx hm hmx).1, fun v hv hnan => ((h3 m mx hm hmx).2.2 v hv hnan).1⟩

theorem written_max (c : Col) (es : PageEntries) (hwf : WFPage c es) (m : Bytes)
    (hm : getBin (pageStatsFields c es) 5 = some m) :
    isNaN c.ty m = false ∧ ∀ v ∈ es.filterMap (·.val), isNaN c.ty v = false → le c.ty v m := by
  obtain ⟨_, h2, h3⟩ := written_min_max c es hwf
  obtain ⟨mn, hmn⟩ := h2 m hm
  exact ⟨(h3 mn m hmn hm).2.1, fun v hv hnan => ((h3 mn m hmn hm).2.2 v hv hnan).2⟩

/-- Guard: the page of a required numeric column is not empty — such a column always reports
min / max, on an empty page the initial `math.Max<T>` / `0`; `Writer` never writes an empty page. -/
theorem written_absent (c : Col) (es : PageEntries) (hwf : WFPage c es)
    (hne : c.isRequired = true → Numeric c.ty → es ≠ []) (hnil : es.filterMap (·.val) = []) :
    getBin (pageStatsFields c es) 6 = none ∧ getBin (pageStatsFields c es) 5 = none := by
  simp only [pageStatsFields, statsFields_get]
  have hnone := List.filterMap_eq_nil_iff.1 hnil
  by_cases hk : c.isRequired = false ∨ c.ty = .str ∨ c.ty = .bool
  · exact (page_stats_sound c es (striped_of_wfPage hwf)).2.2 hnone hk
  · have hr : c.isRequired = true := by
      cases hc : c.isRequired with
      | true => rfl
      | false => exact absurd (Or.inl hc) hk
    have hnum : Numeric c.ty := ⟨fun hb => hk (Or.inr (Or.inr hb)), fun hb => hk (Or.inr (Or.inl hb))⟩
    cases es with
    | nil => exact absurd rfl (hne hr hnum)
    | cons e es =>
      -- a page of a `RequiredField` has a value in every entry
      have h1 := hwf.entries e List.mem_cons_self
      rw [if_pos hr, hnone e List.mem_cons_self] at h1
      cases h1.2.2

/-- **C12 on what the parser reads from a written page**, as a proposition -/
theorem statsSound_written (c : Col) (es : PageEntries) (hwf : WFPage c es)
    (hne : c.isRequired = true → Numeric c.ty → es ≠ []) (h a b : Nat) :
    StatsSound c { numValues := es.length, entries := es, headerLen := h, compressedLen := a,
                   uncompressedLen := b, stats := some (pageStatsFields c es) } := by
  refine ⟨fun n hn => (written_null_count c es hwf n hn).1, written_absent c es hwf hne,
    fun m hm => ?_, fun m hm => ?_⟩
  · obtain ⟨nn, hb⟩ := written_min c es hwf m hm
    exact ⟨fun v hv hnan => hb v hv (isNaNVal_eq c.ty v ▸ hnan),
      fun hnan => by rw [isNaNVal_eq, nn] at hnan; cases hnan⟩
  · obtain ⟨nn, hb⟩ := written_max c es hwf m hm
    exact ⟨fun v hv hnan => hb v hv (isNaNVal_eq c.ty v ▸ hnan),
      fun hnan => by rw [isNaNVal_eq, nn] at hnan; cases hnan⟩

/-- **… and for the oracle `statsUnsound` of `PQ/Model/Spec.lean`.** -/
theorem statsUnsound_written (c : Col) (es : PageEntries) (hwf : WFPage c es)
    (hne : c.isRequired = true → Numeric c.ty → es ≠ []) (h a b : Nat) :
    statsUnsound c { numValues := es.length, entries := es, headerLen := h, compressedLen := a,
                     uncompressedLen := b, stats := some (pageStatsFields c es) } = none :=
  (statsUnsound_eq_none_iff c _).2 (statsSound_written c es hwf hne h a b)

/-- the simpler guard "a `RequiredField`'s page is not empty" is enough -/
theorem statsUnsound_written' (c : Col) (es : PageEntries) (hwf : WFPage c es)
    (hne : c.isRequired = true → es ≠ []) (h a b : Nat) :
    statsUnsound c { numValues := es.length, entries := es, headerLen := h, compressedLen := a,
                     uncompressedLen := b, stats := some (pageStatsFields c es) } = none :=
  statsUnsound_written c es hwf (fun hr _ => hne hr) h a b

/-- the guard is exactly what is needed: the empty page of a required numeric column carries
`min = math.Max<T>`, `max = 0` and the oracle rejects it (no such page is ever written) -/
theorem required_numeric_empty_unsound (c : Col) (hr : c.isRequired = true) (hn : Numeric c.ty)
    (h a b : Nat) :
    statsUnsound c { numValues := 0, entries := [], headerLen := h, compressedLen := a,
                     uncompressedLen := b, stats := some (pageStatsFields c []) } =
      some "min/max present on a page without non-null values" := by
  have hres := required_numeric_always_present hn (if c.isRequired then 0 else c.maxDef) []
  rw [← pageStats_eq, ← hr] at hres
  have h0 := null_count_required c.ty (if c.isRequired then 0 else c.maxDef) []
  rw [← pageStats_eq, ← hr] at h0
  unfold statsUnsound
  simp only [Option.getD_some, pageStatsFields, statsFields_get, hres.1, hres.2, h0]
  rfl

/-- **C12 on the bytes.**  Wherever the two `Write`s of a well-formed page land in a file, the page
the independent parser returns there is the page that was written, and its statistics are sound. -/
theorem statsSound_specPage (dc : Decomp) (k : Codec) (codec : Int) (c : Col) (es : PageEntries)
    (hwf : WFPage c es) (hne : c.isRequired = true → Numeric c.ty → es ≠ [])
    (hk : CodecOK dc k codec (pagePayload c es)) (pre rest : Bytes) :
    ∃ pg, specPage dc c codec (pre ++ (pageBytes k c es).1 ++ (pageBytes k c es).2 ++ rest) pre.length
        = .ok pg ∧ pg.entries = es ∧ pg.stats = some (pageStatsFields c es) ∧
      StatsSound c pg ∧ statsUnsound c pg = none :=
  ⟨_, specPage_pageBytes_codec dc k codec c es hwf hk pre rest, rfl, rfl,
    statsSound_written c es hwf hne _ _ _, statsUnsound_written c es hwf hne _ _ _⟩

/-- the same, for whatever `specPage` returns -/
theorem statsUnsound_specPage (dc : Decomp) (k : Codec) (codec : Int) (c : Col) (es : PageEntries)
    (hwf : WFPage c es) (hne : c.isRequired = true → Numeric c.ty → es ≠ [])
    (hk : CodecOK dc k codec (pagePayload c es)) (pre rest : Bytes) (pg : SpecPage)
    (hpg : specPage dc c codec (pre ++ (pageBytes k c es).1 ++ (pageBytes k c es).2 ++ rest) pre.length
        = .ok pg) :
    statsUnsound c pg = none := by
  rw [specPage_pageBytes_codec dc k codec c es hwf hk pre rest] at hpg
  cases hpg
  exact statsUnsound_written c es hwf hne _ _ _

section examples

/-- the optional int32 page `[1, null, -1]` of `PageRT`: its header carries
`null_count = 1, max = 1, min = -1` … -/
example : pageStatsFields exCol exPage =
    [(3, .int 6 1), (5, .bin [1, 0, 0, 0]), (6, .bin [255, 255, 255, 255])] := by rfl

/-- the page as the parser returns it (23 header bytes, 18 payload bytes) -/
private def exParsed (st : List (Nat × TVal)) : SpecPage :=
  { numValues := 3, entries := exPage, headerLen := 23, compressedLen := 18, uncompressedLen := 18,
    stats := some st }

/-- the oracle accepts the parsed page: by the theorem … -/
example : statsUnsound exCol (exParsed (pageStatsFields exCol exPage)) = none :=
  statsUnsound_written exCol exPage exPage_wf (by decide) _ _ _

/-- … and by evaluation -/
example : statsUnsound exCol (exParsed (pageStatsFields exCol exPage)) = none := by decide

/-- a wrong `min` (1, while the page holds −1) next to a right null_count is reported: a passing
null_count arm does not end the `<|>` chain -/
example : statsUnsound exCol (exParsed [(3, .int 6 1), (5, .bin [1, 0, 0, 0]), (6, .bin [1, 0, 0, 0])]) =
    some "a value is below min" := by decide

/-- a NaN `min` on a float page holding an ordinary value (1.0) is reported too -/
private def exColF : Col := { path := ["f"], reps := [.opt], ty := .f32 }

example : statsUnsound exColF
    { numValues := 1, entries := [⟨0, 1, some [0, 0, 128, 63]⟩], headerLen := 0, compressedLen := 0,
      uncompressedLen := 0,
      stats := some [(3, .int 6 0), (5, .bin [0, 0, 128, 63]), (6, .bin [0, 0, 192, 127])] } =
    some "min is NaN: min <= v is false for every value" := by decide +kernel

/-- the repeated optional string page of `PageRT`, through the parser -/
example (dc : Decomp) (pre rest : Bytes) (pg : SpecPage)
    (h : specPage dc exCol2 0 (pre ++ (pageBytes ⟨0, id⟩ exCol2 exPage2).1 ++
      (pageBytes ⟨0, id⟩ exCol2 exPage2).2 ++ rest) pre.length = .ok pg) :
    statsUnsound exCol2 pg = none :=
  statsUnsound_specPage dc ⟨0, id⟩ 0 exCol2 exPage2 exPage2_wf (by decide) (Or.inl ⟨rfl, rfl⟩) pre rest pg h

end examples

end PQ
