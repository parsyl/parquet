import PQ.Lemmas.ChunkRT
/-!
# The generated reader on one column chunk

A page in a file is a `GPage`; `GPage.OKFor` collects what the typed `Read` of a column uses of it: the header is
decodable where the page lies, `checkPage` passes, `pageData` delivers the uncompressed payload (`pageData_stored`)
and — for columns with levels — `readLevels` decodes its level sections (`LevelsRead`).  "`x` lies at `pos`" is
`file.drop pos = x ++ rest`, as in the validator walk (Lemmas/PageRT.lean).  The page loops of
`RequiredField.DoRead` / `OptionalField.DoRead` run through such pages lying back to back, whatever follows them
(`requiredDoRead_prefix`, `optionalDoRead_prefix`); when the footer's counts end with the pages, the typed `Read`
fills the column's buffer with exactly their entries (`readChunk_gen`, a `ChunkReads`).  Instances: the pages of
the writer model (`libPage_okFor`, `chunkReads_chunk`) and of the independent spec writer (ForeignPage.lean).
-/
namespace PQ
open PQ.Thrift

theorem readExactly_at {file : Bytes} {pos : Nat} {mid post : Bytes} (h : file.drop pos = mid ++ post) :
    (Src.mk file pos).readExactly mid.length = .ok (mid, ⟨file, pos + mid.length⟩) := by
  unfold Src.readExactly
  simp only [h, List.take_left, Nat.lt_irrefl, if_false]

theorem readStruct_at (v : TVal) (hv : TopOK v) {file : Bytes} {pos : Nat} {t : Bytes} (h : file.drop pos = v.enc ++ t) :
    (Src.mk file pos).readStruct = .ok (v, ⟨file, pos + v.enc.length⟩) := by
  have hdec := hv.dec ((v.enc ++ t).length + 2) t (by simp only [List.length_append]; omega)
  have hl := congrArg List.length h
  have := enc_length_pos v
  simp only [List.length_drop, List.length_append] at hl
  unfold Src.readStruct
  simp only [h, hdec]
  congr 3
  omega

theorem natOfInt_nat (n : Nat) : natOfInt (n : Int) = .ok n := by
  unfold natOfInt
  rw [if_neg (by omega), Int.toNat_natCast]

theorem pageData_stored (dc : Decomp) (ph : PHdr) (codec : Int) {stored raw : Bytes}
    (hc : ph.compressed = ((stored.length : Nat) : Int)) (hu : ph.uncompressed = ((raw.length : Nat) : Int))
    (hk : StoredAs dc codec stored raw) {file : Bytes} {pos : Nat} {rest : Bytes} (h : file.drop pos = stored ++ rest) :
    pageData dc ⟨file, pos⟩ ph codec = .ok (raw, ⟨file, pos + stored.length⟩) := by
  unfold pageData
  rcases hk with ⟨h0, rfl⟩ | ⟨h1, hs⟩ | ⟨h2, hs⟩
  · rw [if_neg (by omega), if_neg (by omega), if_pos h0, hu]
    simp only [natOfInt_nat, bind, Except.bind]
    exact readExactly_at h
  · rw [if_pos h1, hc]
    simp only [natOfInt_nat, bind, Except.bind, readExactly_at h, hs]
  · rw [if_neg (by omega), if_pos h2, hc, if_neg (by omega)]
    simp only [Int.toNat_natCast, bind, Except.bind, readExactly_at h, hs]

/-- one data page in a file: the bytes of its header, its stored payload, what `PageHeader.Read` makes of the
header, the uncompressed payload, the entries it holds -/
structure GPage where
  hdr : Bytes
  body : Bytes
  ph : PHdr
  raw : Bytes
  es : PageEntries

/-- what a walk from header to header uses of the page (`PageHeadersAtOffset` needs no more: IntrospectRT.lean) -/
structure GPage.Walks (p : GPage) : Prop where
  read : ∀ (file : Bytes) (pos : Nat) (rest : Bytes), file.drop pos = p.hdr ++ rest →
    ∃ t, (Src.mk file pos).readStruct = .ok (t, ⟨file, pos + p.hdr.length⟩) ∧ decPHdr t = some p.ph
  pos : 1 ≤ p.hdr.length
  compressed : p.ph.compressed = ((p.body.length : Nat) : Int)
  dph : ∃ e de re st, p.ph.dph = some (((p.es.length : Nat) : Int), e, de, re, st)

structure GPage.Reads (dc : Decomp) (codec : Int) (p : GPage) : Prop extends GPage.Walks p where
  uncompressed : p.ph.uncompressed = ((p.raw.length : Nat) : Int)
  stored : StoredAs dc codec p.body p.raw

def pagesBytes (ps : List GPage) : Bytes := ps.flatMap fun p => p.hdr ++ p.body

theorem pagesBytes_cons (p : GPage) (ps : List GPage) : pagesBytes (p :: ps) = p.hdr ++ (p.body ++ pagesBytes ps) := by
  simp [pagesBytes]

theorem pagesBytes_length_ge : ∀ (ps : List GPage), (∀ p ∈ ps, 1 ≤ p.hdr.length) → ps.length ≤ (pagesBytes ps).length
  | [], _ => by simp
  | p :: ps, h => by
    have := pagesBytes_length_ge ps (fun q hq => h q (List.mem_cons_of_mem _ hq))
    have := h p List.mem_cons_self
    rw [pagesBytes_cons]
    simp only [List.length_append, List.length_cons]
    omega

theorem pages_fuel {ps : List GPage} (hpos : ∀ p ∈ ps, 1 ≤ p.hdr.length) {file : Bytes} {pos : Nat} {rest : Bytes}
    (hl : file.drop pos = pagesBytes ps ++ rest) : ∃ f, file.length + 2 = (f + 1) + ps.length := by
  have h1 := pagesBytes_length_ge ps hpos
  have h2 := length_le_of_drop_eq hl
  exact ⟨file.length - ps.length + 1, by omega⟩

/-- the level sections of the payload `raw` of a page holding `es`, as `OptionalField.DoRead` reads them: `readLevels`
returns the levels followed by padding values (the last bit-packed group is decoded whole); the PLAIN values follow -/
def LevelsRead (c : Col) (es : PageEntries) (raw : Bytes) : Prop :=
  ∃ l1 l2 : Nat,
    (if c.maxRep > 0 then ∃ pad v, readLevelsAt (bitsLen c.maxRep) raw 0 = .ok (es.map (·.rep) ++ List.replicate pad v, l1)
     else l1 = 0) ∧
    (∃ pad v, readLevelsAt (bitsLen c.maxDef) raw l1 = .ok (es.map (·.dl) ++ List.replicate pad v, l2)) ∧
    raw.drop (l1 + l2) = plainValues c.ty (nonNull es) ∧ l1 + l2 ≤ raw.length

theorem nonNull_append (a b : PageEntries) : nonNull (a ++ b) = nonNull a ++ nonNull b := by
  simp [nonNull, List.filterMap_append]

theorem nonNull_flatten (ess : List PageEntries) : nonNull ess.flatten = (ess.map nonNull).flatten := by
  induction ess with
  | nil => rfl
  | cons e ess ih => simp only [List.flatten_cons, nonNull_append, ih, List.map_cons]

theorem WFPage.count_maxDef {c : Col} {es : PageEntries} (hwf : WFPage c es) (hreq : c.isRequired = false) :
    ((es.map (·.dl)).filter (· = c.maxDef)).length = (nonNull es).length :=
  PQ.count_maxDef _ _ fun e he => (hwf.opt hreq e he).2.2

/-- what the typed `Read` of column `c` needs of a page -/
structure GPage.OKFor (dc : Decomp) (c : Col) (codec : Int) (p : GPage) : Prop extends GPage.Reads dc codec p where
  wf : WFPage c p.es
  ne : p.es ≠ []
  req : c.isRequired = true → checkPage p.ph false false = true ∧ p.raw = plainValues c.ty (nonNull p.es)
  opt : c.isRequired = false → checkPage p.ph true (decide (c.maxRep > 0)) = true ∧ LevelsRead c p.es p.raw

theorem requiredDoRead_page (dc : Decomp) (pg : PageMeta) (p : GPage) (hp : p.Reads dc pg.codec)
    (hchk : checkPage p.ph false false = true) (file : Bytes) (pos : Nat) (rest : Bytes)
    (hl : file.drop pos = p.hdr ++ (p.body ++ rest))
    (fuel : Nat) (nRead : Int) (out : Bytes) (sizes : List Int) (hlt : nRead < pg.n) :
    requiredDoRead dc pg (fuel + 1) ⟨file, pos⟩ nRead out sizes =
      requiredDoRead dc pg fuel ⟨file, pos + p.hdr.length + p.body.length⟩ (nRead + ((p.es.length : Nat) : Int))
        (out ++ p.raw) (sizes ++ [((p.es.length : Nat) : Int)]) := by
  obtain ⟨t, h1, h2⟩ := hp.read file pos _ hl
  obtain ⟨e, de, re, st, hd⟩ := hp.dph
  rw [requiredDoRead, if_pos hlt]
  simp only [bind, Except.bind, h1, h2, pure, Except.pure, hchk, Bool.not_true, Bool.false_eq_true, if_false,
    numValuesOf, hd, pageData_stored dc p.ph pg.codec hp.compressed hp.uncompressed hp.stored (drop_add_of_drop_eq hl)]

theorem requiredDoRead_prefix (dc : Decomp) (c : Col) (pg : PageMeta) (hreq : c.isRequired = true) :
    ∀ (ps : List GPage) (file : Bytes) (pos fuel : Nat) (rest : Bytes) (nRead : Int) (out : Bytes) (sizes : List Int),
      (∀ p ∈ ps, p.OKFor dc c pg.codec) →
      file.drop pos = pagesBytes ps ++ rest → nRead + ((((ps.map (·.es.length)).sum : Nat)) : Int) ≤ pg.n →
      requiredDoRead dc pg (fuel + ps.length) ⟨file, pos⟩ nRead out sizes =
        requiredDoRead dc pg fuel ⟨file, pos + (pagesBytes ps).length⟩ (nRead + ((((ps.map (·.es.length)).sum : Nat)) : Int))
          (out ++ ps.flatMap fun p => plainValues c.ty (nonNull p.es)) (sizes ++ ps.map fun p => ((nonNull p.es).length : Int))
  | [], file, pos, fuel, rest, nRead, out, sizes, _, _, _ => by simp [pagesBytes]
  | p :: ps, file, pos, fuel, rest, nRead, out, sizes, hg, hl, hn => by
    have hp := hg p List.mem_cons_self
    obtain ⟨hchk, hraw⟩ := hp.req hreq
    have hpos : 1 ≤ p.es.length := List.length_pos_iff.mpr hp.ne
    simp only [List.map_cons, List.sum_cons, Int.natCast_add] at hn
    rw [pagesBytes_cons, List.append_assoc, List.append_assoc] at hl
    rw [List.length_cons, ← Nat.add_assoc, requiredDoRead_page dc pg p hp.toReads hchk file pos _ hl _ nRead out sizes (by omega),
      requiredDoRead_prefix dc c pg hreq ps file _ fuel rest _ _ _ (fun q hq => hg q (List.mem_cons_of_mem _ hq))
        (drop_add_of_drop_eq (drop_add_of_drop_eq hl)) (by omega)]
    -- a required column has a value per entry
    simp only [pagesBytes_cons, List.length_append, List.map_cons, List.sum_cons, Int.natCast_add, List.flatMap_cons,
      List.append_assoc, List.cons_append, List.nil_append, Nat.add_assoc, Int.add_assoc, hraw,
      (required_entries p.es (hp.wf.req hreq)).1]

/-- the column buffer after the levels of `es` were appended -/
def addLevels (c : Col) (buf : ColBuf) (es : PageEntries) : ColBuf :=
  { vals := buf.vals, defs := buf.defs ++ es.map (·.dl),
    reps := if c.maxRep > 0 then buf.reps ++ es.map (·.rep) else buf.reps }

theorem addLevels_nil (c : Col) (buf : ColBuf) : addLevels c buf [] = buf := by
  cases buf
  simp [addLevels]

theorem addLevels_append (c : Col) (buf : ColBuf) (a b : PageEntries) :
    addLevels c (addLevels c buf a) b = addLevels c buf (a ++ b) := by
  unfold addLevels
  by_cases h : c.maxRep > 0 <;> simp [h]

theorem optionalDoRead_page (dc : Decomp) (c : Col) (pg : PageMeta) (p : GPage) (hp : p.Reads dc pg.codec)
    (hchk : checkPage p.ph true (decide (c.maxRep > 0)) = true) (hlv : LevelsRead c p.es p.raw)
    (hcount : ((p.es.map (·.dl)).filter (· = c.maxDef)).length = (nonNull p.es).length)
    (file : Bytes) (pos : Nat) (rest : Bytes) (hl : file.drop pos = p.hdr ++ (p.body ++ rest))
    (fuel : Nat) (nRead : Int) (buf : ColBuf) (out : Bytes) (sizes : List Int) (hlt : nRead < pg.size) :
    optionalDoRead dc c pg (fuel + 1) ⟨file, pos⟩ nRead buf out sizes =
      optionalDoRead dc c pg fuel ⟨file, pos + p.hdr.length + p.body.length⟩
        (nRead + ((p.hdr.length + p.body.length : Nat) : Int))
        (addLevels c buf p.es) (out ++ plainValues c.ty (nonNull p.es)) (sizes ++ [((nonNull p.es).length : Int)]) := by
  obtain ⟨t, h1, h2⟩ := hp.read file pos _ hl
  obtain ⟨e, de, re, st, hd⟩ := hp.dph
  obtain ⟨l1, l2, hr, ⟨padd, vd, hdl⟩, e3, hle⟩ := hlv
  rw [optionalDoRead, if_pos hlt]
  simp only [bind, Except.bind, h1, h2, pure, Except.pure, hchk, Bool.not_true, Bool.false_eq_true, if_false,
    numValuesOf, hd, pageData_stored dc p.ph pg.codec hp.compressed hp.uncompressed hp.stored (drop_add_of_drop_eq hl)]
  have hsub : pos + p.hdr.length + p.body.length - pos = p.hdr.length + p.body.length := by
    rw [Nat.add_assoc, Nat.add_sub_cancel_left]
  have take_pad : ∀ (f : Entry Bytes → Nat) (pad v : Nat),
      (p.es.map f ++ List.replicate pad v).take p.es.length = p.es.map f :=
    fun f _ _ => List.take_left' (List.length_map f)
  have hnv : ∀ (f : Entry Bytes → Nat) (pad v : Nat),
      ¬ (((p.es.length : Nat) : Int) < 0 ∨ p.es.length > (p.es.map f ++ List.replicate pad v).length) := by
    intro f pad v
    simp only [List.length_append, List.length_map]; omega
  -- the step itself happens inside the two `simp only` below: each decoded level stream is the page's levels followed by
  -- padding, the reader cuts it to the header's `num_values` (`take_pad`) and appends it to the buffer (`addLevels`);
  -- `hcount` turns the count of maximal definition levels into the number of values taken from the PLAIN section
  by_cases hrep : c.maxRep > 0
  · rw [if_pos hrep] at hr
    obtain ⟨padr, vr, hr'⟩ := hr
    have hle' : ¬ (l1 + l2 > p.raw.length) := Nat.not_lt.mpr hle
    simp only [if_pos hrep, hr', hnv, if_false, hdl, Int.toNat_natCast, hle', take_pad, e3, hcount, hsub, addLevels]
  · rw [if_neg hrep] at hr
    subst hr
    rw [Nat.zero_add] at e3 hle
    have hle' : ¬ (l2 > p.raw.length) := Nat.not_lt.mpr hle
    simp only [if_neg hrep, hdl, hnv, if_false, Int.toNat_natCast, Nat.zero_add, hle', take_pad, e3, hcount, hsub, addLevels]

theorem optionalDoRead_prefix (dc : Decomp) (c : Col) (pg : PageMeta) (hreq : c.isRequired = false) :
    ∀ (ps : List GPage) (file : Bytes) (pos fuel : Nat) (rest : Bytes) (nRead : Int) (buf : ColBuf) (out : Bytes)
      (sizes : List Int),
      (∀ p ∈ ps, p.OKFor dc c pg.codec) →
      file.drop pos = pagesBytes ps ++ rest → nRead + (((pagesBytes ps).length : Nat) : Int) ≤ pg.size →
      optionalDoRead dc c pg (fuel + ps.length) ⟨file, pos⟩ nRead buf out sizes =
        optionalDoRead dc c pg fuel ⟨file, pos + (pagesBytes ps).length⟩ (nRead + (((pagesBytes ps).length : Nat) : Int))
          (addLevels c buf (ps.map (·.es)).flatten) (out ++ ps.flatMap fun p => plainValues c.ty (nonNull p.es))
          (sizes ++ ps.map fun p => ((nonNull p.es).length : Int))
  | [], file, pos, fuel, rest, nRead, buf, out, sizes, _, _, _ => by simp [pagesBytes, addLevels_nil]
  | p :: ps, file, pos, fuel, rest, nRead, buf, out, sizes, hg, hl, hn => by
    have hp := hg p List.mem_cons_self
    obtain ⟨hchk, hlv⟩ := hp.opt hreq
    have hpos := hp.pos
    rw [pagesBytes_cons] at hl hn
    rw [List.append_assoc, List.append_assoc] at hl
    simp only [List.length_append, Int.natCast_add] at hn
    rw [List.length_cons, ← Nat.add_assoc,
      optionalDoRead_page dc c pg p hp.toReads hchk hlv (hp.wf.count_maxDef hreq) file pos _ hl _ nRead buf out sizes
        (by omega),
      optionalDoRead_prefix dc c pg hreq ps file _ fuel rest _ _ _ _ (fun q hq => hg q (List.mem_cons_of_mem _ hq))
        (drop_add_of_drop_eq (drop_add_of_drop_eq hl)) (by simp only [Int.natCast_add]; omega),
      addLevels_append]
    simp only [pagesBytes_cons, List.length_append, List.map_cons, List.flatten_cons, Int.natCast_add, List.flatMap_cons,
      List.append_assoc, List.cons_append, List.nil_append, Nat.add_assoc, Int.add_assoc]

/-- what a column's buffer holds for the entries `es`: all non-null values, and (optional columns)
the definition levels and, below a repeated element, the repetition levels of every entry -/
def colBufOf (c : Col) (es : PageEntries) : ColBuf :=
  if c.isRequired then { vals := nonNull es, defs := [], reps := [] }
  else { vals := nonNull es, defs := es.map (·.dl), reps := if c.maxRep > 0 then es.map (·.rep) else [] }

/-- one column chunk in a file: its column, what `Metadata.Pages()` lists for it, its bytes, its entries -/
structure GChunk where
  col : Col
  pg : PageMeta
  bytes : Bytes
  es : PageEntries

/-- the typed `Read` started at the chunk's first byte, on an empty buffer, returns the chunk's entries and leaves the
source right behind the chunk — wherever the chunk lies in the file (`file.drop pos = g.bytes ++ rest`) -/
def ChunkReads (dc : Decomp) (g : GChunk) : Prop :=
  ∀ (file : Bytes) (pos : Nat) (rest : Bytes), file.drop pos = g.bytes ++ rest →
    readChunk dc g.col g.pg {} ⟨file, pos⟩ = .ok (colBufOf g.col g.es, ⟨file, pos + g.bytes.length⟩)

/-- **The typed `Read` of one column chunk** (`<T>Field.Read` / `<T>OptionalField.Read`) on any pages — multi-page
chunks of every type, booleans included.  `pg.n` is the chunk's `num_values`, `pg.size` its `total_compressed_size`. -/
theorem readChunk_gen (dc : Decomp) (c : Col) (pg : PageMeta) (ps : List GPage) (hps : ∀ p ∈ ps, p.OKFor dc c pg.codec)
    (hn : pg.n = ((((ps.map (·.es.length)).sum : Nat)) : Int)) (hsize : pg.size = (((pagesBytes ps).length : Nat) : Int)) :
    ChunkReads dc { col := c, pg := pg, bytes := pagesBytes ps, es := (ps.map (·.es)).flatten } := by
  intro file pos rest hl
  simp only at hl ⊢
  -- what both loops hand to `readValues`: per page, the PLAIN section of its values and their number
  have hrv : readValues c.ty (nonNull (ps.map (·.es)).flatten).length (ps.flatMap fun p => plainValues c.ty (nonNull p.es))
      (ps.map fun p => ((nonNull p.es).length : Int)) = .ok (nonNull (ps.map (·.es)).flatten) := by
    have := readValues_pages c.ty ((ps.map (·.es)).map nonNull) (by
      intro vs hvs
      obtain ⟨p, hp, rfl⟩ := List.mem_map.mp (List.map_map ▸ hvs)
      exact (hps p hp).wf.vals)
    rw [← nonNull_flatten, List.map_map, List.flatMap_map, List.map_map] at this
    exact this
  obtain ⟨f, hfuel⟩ := pages_fuel (fun p hp => (hps p hp).pos) hl
  unfold readChunk
  cases hreq : c.isRequired with
  | true =>
    have hlen : (ps.map (·.es.length)).sum = (nonNull (ps.map (·.es)).flatten).length := by
      rw [nonNull_flatten, List.length_flatten, List.map_map, List.map_map]
      exact congrArg List.sum (List.map_congr_left fun p hp => (required_entries p.es ((hps p hp).wf.req hreq)).1.symm)
    rw [if_pos rfl, hfuel, requiredDoRead_prefix dc c pg hreq ps file pos (f + 1) rest 0 [] [] hps hl (by omega),
      requiredDoRead, if_neg (by omega)]
    simp only [bind, Except.bind, List.nil_append, hn, natOfInt_nat, hlen, hrv, colBufOf, hreq, if_true, ite_self]
  | false =>
    have hcount : ((((ps.map (·.es)).flatten).map (·.dl)).filter (· = c.maxDef)).length = (nonNull (ps.map (·.es)).flatten).length := by
      apply count_maxDef
      intro e he
      obtain ⟨es, hes, hee⟩ := List.mem_flatten.mp he
      obtain ⟨p, hp, rfl⟩ := List.mem_map.mp hes
      exact ((hps p hp).wf.opt hreq e hee).2.2
    rw [if_neg Bool.false_ne_true, hfuel, optionalDoRead_prefix dc c pg hreq ps file pos (f + 1) rest 0 {} [] [] hps hl (by omega),
      optionalDoRead, if_neg (by omega)]
    simp only [bind, Except.bind, List.nil_append]
    simp only [addLevels, List.nil_append, hcount, List.length_nil, Nat.sub_zero, ite_self, hrv, colBufOf, hreq,
      Bool.false_eq_true, if_false]

/-- the thrift header of the page holding `es` -/
def hdrT (k : Codec) (c : Col) (es : PageEntries) : TVal :=
  pageHeaderT (pagePayload c es).length (k.apply (pagePayload c es)).length es.length (.struct (pageStatsFields c es))

/-- … and what `PageHeader.Read` makes of it -/
def phOf (k : Codec) (c : Col) (es : PageEntries) : PHdr :=
  { ty := 0, uncompressed := ((pagePayload c es).length : Nat), compressed := ((k.apply (pagePayload c es)).length : Nat),
    dph := some ((es.length : Nat), 0, 3, 3, some (pageStatsFields c es)), hasDict := false, hasIndex := false, hasV2 := false }

theorem pageBytes_fst (k : Codec) (c : Col) (es : PageEntries) : (pageBytes k c es).1 = (hdrT k c es).enc := rfl
theorem pageBytes_snd (k : Codec) (c : Col) (es : PageEntries) : (pageBytes k c es).2 = k.apply (pagePayload c es) := rfl

theorem checkPage_phOf (k : Codec) (c : Col) (es : PageEntries) (d r : Bool) : checkPage (phOf k c es) d r = true := by
  simp [checkPage, phOf]

theorem numValuesOf_phOf (k : Codec) (c : Col) (es : PageEntries) : numValuesOf (phOf k c es) = .ok (es.length : Int) := rfl

theorem levelsRead_page (c : Col) (es : PageEntries) (hreq : c.isRequired = false) (hwf : WFPage c es) :
    LevelsRead c es (pagePayload c es) := by
  unfold pagePayload
  rw [if_neg (by simp [hreq])]
  by_cases hrep : c.maxRep > 0
  · obtain ⟨padr, _, hr⟩ := readLevelsAt_encode (hwf.repLevels hreq hrep) []
      (encode (bitsLen c.maxDef) (es.map (·.dl)) ++ plainValues c.ty (nonNull es))
    obtain ⟨padd, _, hd⟩ := readLevelsAt_encode (hwf.defLevels hreq) (encode (bitsLen c.maxRep) (es.map (·.rep)))
      (plainValues c.ty (nonNull es))
    rw [if_pos hrep]
    refine ⟨_, _, ?_, ⟨padd, 0, hd⟩, ?_, by simp only [List.length_append]; omega⟩
    · rw [if_pos hrep]
      exact ⟨padr, 0, by simpa only [List.nil_append, List.length_nil, List.append_assoc] using hr⟩
    · rw [← List.length_append]
      exact List.drop_left
  · obtain ⟨padd, _, hd⟩ := readLevelsAt_encode (hwf.defLevels hreq) [] (plainValues c.ty (nonNull es))
    rw [if_neg hrep]
    refine ⟨0, _, by rw [if_neg hrep], ⟨padd, 0, hd⟩, ?_, by simp only [List.length_append]; omega⟩
    rw [List.nil_append, Nat.zero_add]
    exact List.drop_left

/-- the `PageMeta` (`Metadata.Pages()`) of the chunk whose pages hold `ess` -/
def pageMetaOf (k : Codec) (c : Col) (ess : List PageEntries) : PageMeta :=
  { n := ((colChunk k c ess).numValues : Nat), size := ((colChunk k c ess).totalCompressed : Nat), codec := (k.id : Nat) }

/-- what each page of a chunk must satisfy for the reader -/
structure PageRd (dc : Decomp) (k : Codec) (c : Col) (es : PageEntries) : Prop where
  wf : WFPage c es
  codec : CodecOK dc k (k.id : Int) (pagePayload c es)
  ne : es ≠ []

def libPage (k : Codec) (c : Col) (es : PageEntries) : GPage :=
  { hdr := (pageBytes k c es).1, body := (pageBytes k c es).2, ph := phOf k c es, raw := pagePayload c es, es := es }

theorem libPage_walks (k : Codec) (c : Col) (es : PageEntries) : (libPage k c es).Walks where
  read := fun _ _ _ h =>
    ⟨_, readStruct_at (hdrT k c es) (pageHeader_ok _ _ _ _ (statsFields_wf _) (statsFields_slack _)) h,
      decPHdr_pageHeader _ _ _ _⟩
  pos := pageHeader_length_pos k c es
  compressed := rfl
  dph := ⟨_, _, _, _, rfl⟩

theorem libPage_okFor (dc : Decomp) (k : Codec) (c : Col) (es : PageEntries) (h : PageRd dc k c es) :
    (libPage k c es).OKFor dc c (k.id : Int) where
  toWalks := libPage_walks k c es
  uncompressed := rfl
  stored := h.codec.stored
  wf := h.wf
  ne := h.ne
  req := fun hreq => ⟨checkPage_phOf k c es _ _, if_pos hreq⟩
  opt := fun hreq => ⟨checkPage_phOf k c es _ _, levelsRead_page c es hreq h.wf⟩

theorem pagesBytes_libPage (k : Codec) (c : Col) : ∀ ess : List PageEntries,
    pagesBytes (ess.map (libPage k c)) = chunkBytes k c ess
  | [] => rfl
  | es :: ess => by
    rw [List.map_cons, pagesBytes_cons, pagesBytes_libPage k c ess, chunkBytes_cons, List.append_assoc]
    rfl

theorem chunkReads_chunk (dc : Decomp) (k : Codec) (c : Col) (ess : List PageEntries) (hg : ∀ es ∈ ess, PageRd dc k c es) :
    ChunkReads dc { col := c, pg := pageMetaOf k c ess, bytes := chunkBytes k c ess, es := ess.flatten } := by
  have := readChunk_gen dc c (pageMetaOf k c ess) (ess.map (libPage k c))
    (by intro p hp; obtain ⟨es, hes, rfl⟩ := List.mem_map.mp hp; exact libPage_okFor dc k c es (hg es hes))
    (by simp only [pageMetaOf, colChunk_numValues, List.map_map]; rfl)
    (by simp only [pageMetaOf, colChunk_totalCompressed, pagesBytes_libPage])
  simpa only [pagesBytes_libPage, List.map_map, Function.comp_def, libPage, List.map_id'] using this

/-- **The typed `Read` of one column chunk** (`<T>Field.Read` / `<T>OptionalField.Read`), started on
an empty buffer at the chunk's first page: the source ends up right after the chunk and the buffer
holds exactly the chunk's entries — multi-page chunks of every type, booleans included. -/
theorem readChunk_chunk (dc : Decomp) (k : Codec) (c : Col) (ess : List PageEntries) (pre post : Bytes)
    (hg : ∀ es ∈ ess, PageRd dc k c es) :
    readChunk dc c (pageMetaOf k c ess) {} (Src.mk (pre ++ chunkBytes k c ess ++ post) pre.length) =
      .ok (colBufOf c ess.flatten,
           Src.mk (pre ++ chunkBytes k c ess ++ post) (pre.length + (chunkBytes k c ess).length)) :=
  chunkReads_chunk dc k c ess hg _ _ post (drop_of_eq_append (List.append_assoc ..) rfl)

end PQ
