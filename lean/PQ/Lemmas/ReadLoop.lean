import PQ.Lemmas.ReaderChunk
import PQ.Lemmas.FileRT
import PQ.Model.Text
/-!
# The `Next`/`Scan` drivers of the generated reader

`Scan` of one column is restated on entries (`scanEntries`; `scanCol_eq`: nothing is lost), so that the driver
`readLoop` / `readAllEntries` returns, per delivered row, the entries each column's `Scan` consumed; on buffers that
hold records `Scan` returns the first record and leaves the rest (`scanEntries_record`).  `Next` is taken case by
case (`next_within`, `next_done`, and at the end of a row group `RState.loadSkip`).  A run of `Next`/`Scan` calls
that deliver rows is a `Delivers`; every driver loop is followed along it in one step.
-/
namespace PQ
open PQ.Thrift

/-- one delivered row: per column, the entries its `Scan` consumed -/
abbrev Row := List (List (Entry Bytes))

/-- one column's `Scan`, returning the entries of the record it consumes instead of their text:
exactly `scanCol`, with `[]` where the buffer is exhausted (the field keeps its zero value) and, for
a `RequiredField`, the single entry `⟨0, 0, some v⟩`; `none` = the generated code panics -/
def scanEntries (c : Col) (buf : ColBuf) : Option (List (Entry Bytes) × ColBuf) :=
  if c.isRequired then
    match buf.vals with
    | [] => some ([], buf)
    | v :: vs => some ([⟨0, 0, some v⟩], { buf with vals := vs })
  else
    match buf.defs with
    | [] => some ([], buf)
    | d :: ds =>
      let n := if c.maxRep = 0 then 1 else 1 + (buf.reps.tail.takeWhile (· != 0)).length
      let n := min n (d :: ds).length
      let defs := (d :: ds).take n
      let reps := buf.reps.take n
      let k := (defs.filter (· = c.maxDef)).length
      match entriesOf c.maxDef defs reps buf.vals with
      | none => none
      | some es => some (es, { vals := buf.vals.drop k, defs := (d :: ds).drop n, reps := buf.reps.drop n })

/-- the text `Scan` leaves in the record for the entries it consumed -/
def scanText (c : Col) (showP : (ts : List Rep) → Proj Bytes ts → String) (es : List (Entry Bytes)) : String :=
  match es with
  | [] => showP c.reps (zeroProj (zeroOfType c.ty) c.reps)
  | e :: tl =>
    if c.isRequired then showP c.reps (zeroProj (e.val.getD []) c.reps)
    else
      match assembleTop c.reps (e :: tl) with
      | some (v, []) => showP c.reps v
      | _ => "?"

theorem entriesOf_length (m : Nat) : ∀ (ds rs : List Nat) (vs : List Bytes) (es : List (Entry Bytes)),
    entriesOf m ds rs vs = some es → es.length = ds.length
  | [], _, _, _, h => by cases h; rfl
  | d :: ds, rs, vs, es, h => by
    unfold entriesOf at h
    simp only at h
    split at h
    · cases vs with
      | nil => cases h
      | cons v vs' =>
        obtain ⟨a, ha, rfl⟩ := Option.map_eq_some_iff.mp h
        rw [List.length_cons, List.length_cons, entriesOf_length m ds _ _ a ha]
    · obtain ⟨a, ha, rfl⟩ := Option.map_eq_some_iff.mp h
      rw [List.length_cons, List.length_cons, entriesOf_length m ds _ _ a ha]

/-- **`scanCol` is a function of `scanEntries`**: nothing is lost by the restatement. -/
theorem scanCol_eq (c : Col) (showP : (ts : List Rep) → Proj Bytes ts → String) (buf : ColBuf) :
    scanCol c showP buf = (scanEntries c buf).map fun x => (scanText c showP x.1, x.2) := by
  unfold scanCol scanEntries
  by_cases hreq : c.isRequired = true
  · rw [if_pos hreq, if_pos hreq]
    cases buf.vals <;> simp [scanText, hreq]
  · rw [if_neg hreq, if_neg hreq]
    cases hd : buf.defs with
    | nil => rfl
    | cons d ds =>
      simp only
      generalize hn : min (if c.maxRep = 0 then 1 else 1 + (buf.reps.tail.takeWhile (· != 0)).length) (d :: ds).length = n
      cases he : entriesOf c.maxDef ((d :: ds).take n) (buf.reps.take n) buf.vals with
      | none => rfl
      | some es =>
        cases es with
        | nil =>
          -- `n ≥ 1`: `Scan` consumes at least one entry
          have := entriesOf_length _ _ _ _ _ he
          simp only [List.length_nil, List.length_take, List.length_cons] at this hn
          split at hn <;> omega
        | cons e tl =>
          simp only [Option.map_some, scanText, if_neg hreq]
          cases assembleTop c.reps (e :: tl) with
          | none => rfl
          | some p => obtain ⟨v, l⟩ := p; cases l <;> rfl

/-- `Scan` over all columns -/
def scanAllEntries : List Col → List ColBuf → Option (List (List (Entry Bytes)) × List ColBuf)
  | [], _ => some ([], [])
  | c :: cs, bufs =>
    match scanEntries c (bufs.head?.getD {}) with
    | none => none
    | some (es, b) =>
      match scanAllEntries cs bufs.tail with
      | none => none
      | some (ess, bs) => some (es :: ess, b :: bs)

/-- the `Next`/`Scan` loop: every delivered row's per-column entries; `none` on a panic, when `Next`
ends with the error flag set, or when the fuel runs out -/
def readLoop : Nat → RState → List (List (List (Entry Bytes))) → Option (List (List (List (Entry Bytes))))
  | 0, _, _ => none
  | fuel+1, st, acc =>
    match st.next with
    | .error _ => none
    | .ok (false, st) => if st.err then none else some acc
    | .ok (true, st) =>
      if st.err then none else
      -- `Scan` calls a method on a nil `Field` when no row group was ever loaded
      if !st.fieldsSet ∧ !st.cols.isEmpty then none else
      match scanAllEntries st.cols st.bufs with
      | none => none
      | some (row, bufs) => readLoop fuel { st with bufs := bufs } (acc ++ [row])

/-- open the file, then `Next`/`Scan` until `Next` is false (`Next` is true at most `Rows()` times, so
`Rows() + 3` iterations always suffice): `Rows()` and, per delivered row, the entries each column's
`Scan` consumed.  `none` on any error or panic, or if `Error()` is non-nil at the end. -/
def readAllEntries (cols : List Col) (dc : Decomp) (file : Bytes) : Option (Int × List (List (List (Entry Bytes)))) :=
  match openReader cols dc file with
  | .error _ => none
  | .ok st => (readLoop (st.rows + 3).toNat st []).map fun rows => (st.rows, rows)

/-- what `Scan` needs of the entries one record holds for column `c` -/
structure RecRd (c : Col) (es : PageEntries) : Prop where
  start : RecEntries es
  entries : ∀ e ∈ es, if c.isRequired then e.rep = 0 ∧ e.dl = 0 ∧ e.val.isSome
    else e.dl ≤ c.maxDef ∧ e.rep ≤ c.maxRep ∧ (e.val.isSome ↔ e.dl = c.maxDef)

theorem RecColOK.rd {c : Col} {es : PageEntries} (h : RecColOK c es) : RecRd c es := ⟨h.start, h.entries⟩

theorem entriesOf_roundtrip (maxDef : Nat) (es : PageEntries) (rs : List Nat) (extra : List Bytes)
    (h : ∀ e ∈ es, (e.val.isSome ↔ e.dl = maxDef)) (hrs : RepsFor rs es) :
    entriesOf maxDef (es.map (·.dl)) rs (nonNull es ++ extra) = some es := by
  induction es generalizing rs with
  | nil => rfl
  | cons e es ih =>
    have h1 := h e (by simp)
    have h2 := ih rs.tail (fun x hx => h x (by simp [hx])) hrs.cons.2
    have hr := hrs.cons.1
    obtain ⟨r, d, v⟩ := e
    cases v with
    | none =>
      have : ¬ d = maxDef := fun hd => by simpa using h1.mpr hd
      simp only [List.map_cons, nonNull_cons_none, entriesOf, if_neg this, h2, hr, Option.map_some]
    | some v =>
      have : d = maxDef := h1.mp rfl
      simp only [List.map_cons, nonNull_cons_some, List.cons_append, entriesOf, if_pos this, h2, hr, Option.map_some]

theorem scanEntries_record (c : Col) (r rest : PageEntries) (hr : RecRd c r) (hrest : ∀ e ∈ rest.head?, e.rep = 0) :
    scanEntries c (colBufOf c (r ++ rest)) = some (r, colBufOf c rest) := by
  obtain ⟨e, tl, rfl, he0, htl⟩ := hr.start
  -- where no entry can have a repetition level other than 0, the record is a single entry
  have hsingle : (∀ x ∈ tl, x.rep = 0) → tl = [] := fun h => by
    cases tl with
    | nil => rfl
    | cons a b => exact absurd (h a (by simp)) (htl a (by simp))
  have hvals : (nonNull (e :: (tl ++ rest))).drop (nonNull (e :: tl)).length = nonNull rest := by
    rw [← List.cons_append, nonNull_append]; exact List.drop_left
  unfold scanEntries colBufOf
  by_cases hreq : c.isRequired = true
  · have hent : ∀ x ∈ e :: tl, x.rep = 0 ∧ x.dl = 0 ∧ x.val.isSome := fun x hx => by
      have := hr.entries x hx; rwa [if_pos hreq] at this
    obtain rfl := hsingle fun x hx => (hent x (List.mem_cons_of_mem _ hx)).1
    obtain ⟨r0, d0, v0⟩ := e
    obtain ⟨rfl, rfl, h3⟩ : r0 = 0 ∧ d0 = 0 ∧ v0.isSome := hent _ List.mem_cons_self
    cases v0 with
    | none => cases h3
    | some v => simp [hreq, nonNull_cons_some]
  · have hent : ∀ x ∈ e :: tl, x.dl ≤ c.maxDef ∧ x.rep ≤ c.maxRep ∧ (x.val.isSome ↔ x.dl = c.maxDef) := fun x hx => by
      have := hr.entries x hx; rwa [if_neg hreq] at this
    have hiff : ∀ x ∈ e :: tl, (x.val.isSome ↔ x.dl = c.maxDef) := fun x hx => (hent x hx).2.2
    have hcount := count_maxDef c.maxDef (e :: tl) hiff
    have hrt := fun rs hrs => entriesOf_roundtrip c.maxDef (e :: tl) rs (nonNull rest) hiff hrs
    rw [← nonNull_append] at hrt
    simp only [if_neg hreq, List.cons_append, List.map_cons, List.length_cons, List.length_map, List.length_append]
      at hrt hcount ⊢
    by_cases hrep : c.maxRep = 0
    · obtain rfl := hsingle fun x hx => by have := (hent x (List.mem_cons_of_mem _ hx)).2.1; omega
      simp only [if_pos hrep, show ¬ (c.maxRep > 0) by omega, if_false, List.nil_append, List.length_nil, List.map_nil,
        show min 1 (0 + rest.length + 1) = 1 by omega, List.take_succ_cons, List.take_zero, List.take_nil,
        List.drop_succ_cons, List.drop_zero, List.drop_nil] at hrt hcount hvals ⊢
      simp only [hrt [] (Or.inr ⟨rfl, by simpa using he0⟩), hcount, hvals]
    · -- the levels up to the next entry with repetition level 0 are the record's
      have hstop : ((tl ++ rest).map (·.rep)).takeWhile (· != 0) = tl.map (·.rep) := by
        rw [List.map_append]
        refine (takeWhile_dropWhile_append_stop _ _ _ (fun x hx => ?_) ?_).1
        · obtain ⟨y, hy, rfl⟩ := List.mem_map.mp hx; simpa using htl y hy
        · cases rest with
          | nil => exact .inl rfl
          | cons a b => exact .inr ⟨_, _, rfl, by simp [hrest a (by simp)]⟩
      have htake : ∀ (f : Entry Bytes → Nat), (f e :: (tl ++ rest).map f).take (tl.length + 1) = f e :: tl.map f ∧
          (f e :: (tl ++ rest).map f).drop (tl.length + 1) = rest.map f := fun f => by
        rw [List.map_append, List.take_succ_cons, List.drop_succ_cons, List.take_left' (by simp), List.drop_left' (by simp)]
        exact ⟨rfl, rfl⟩
      simp only [if_neg hrep, if_pos (show c.maxRep > 0 by omega), List.tail_cons, hstop, List.length_map,
        show min (1 + tl.length) (tl.length + rest.length + 1) = tl.length + 1 by omega, htake, hrt (e.rep :: tl.map (·.rep)) (Or.inl rfl),
        hcount, hvals]

/-- the buffers of all columns holding the records `rs` -/
def bufsOf (cols : List Col) (rs : List Rec) : List ColBuf :=
  cols.zipIdx.map fun x => colBufOf x.1 (rs.flatMap (·.getD x.2 []))

/-- one delivered row: per column, the record's entries -/
def rowOf (n : Nat) (r : Rec) : List (List (Entry Bytes)) := (List.range n).map fun i => r.getD i []

theorem scanAll_record (r : Rec) (rs : List Rec) : ∀ (cols : List Col) (j : Nat),
    (∀ x ∈ cols.zipIdx j, RecRd x.1 (r.getD x.2 []) ∧ ∀ r' ∈ rs, RecEntries (r'.getD x.2 [])) →
    scanAllEntries cols ((cols.zipIdx j).map fun x => colBufOf x.1 ((r :: rs).flatMap (·.getD x.2 []))) =
      some ((List.range' j cols.length).map (fun i => r.getD i []),
            (cols.zipIdx j).map fun x => colBufOf x.1 (rs.flatMap (·.getD x.2 [])))
  | [], _, _ => rfl
  | c :: cs, j, h => by
    have hc := h (c, j) (by simp [List.zipIdx_cons])
    have ih := scanAll_record r rs cs (j + 1) (fun x hx => h x (by simp [List.zipIdx_cons, hx]))
    have h1 := scanEntries_record c (r.getD j []) (rs.flatMap (·.getD j [])) hc.1 (head_flatMap j rs hc.2)
    simp only [List.flatMap_cons] at ih
    simp only [List.zipIdx_cons, List.map_cons, scanAllEntries, List.head?_cons, Option.getD_some, List.flatMap_cons,
      h1, List.tail_cons, ih, List.length_cons, List.range'_succ]

theorem scanAll_bufsOf (cols : List Col) (r : Rec) (rs : List Rec)
    (h : ∀ r' ∈ r :: rs, ∀ x ∈ cols.zipIdx, RecRd x.1 (r'.getD x.2 [])) :
    scanAllEntries cols (bufsOf cols (r :: rs)) = some (rowOf cols.length r, bufsOf cols rs) := by
  have := scanAll_record r rs cols 0 (fun x hx =>
    ⟨h r List.mem_cons_self x hx, fun r' hr' => (h r' (List.mem_cons_of_mem _ hr') x hx).start⟩)
  rw [← List.range_eq_range'] at this
  exact this

theorem next_within (st : RState) (h1 : st.err = false) (h2 : st.cursor < st.rows) (h3 : st.rgCursor < st.rgCount) :
    st.next = .ok (true, { st with cursor := st.cursor + 1, rgCursor := st.rgCursor + 1 }) := by
  unfold RState.next
  rw [if_neg (by simp [h1]; omega), if_neg (by omega)]

theorem next_done (st : RState) (h1 : st.err = false) (h2 : st.cursor ≥ st.rows) : st.next = .ok (false, st) := by
  unfold RState.next
  rw [if_pos (by simp [h1]; omega)]

/-- what `Next` does at the end of a row group: it loads the next one and passes over row groups without rows -/
def RState.loadSkip (st : RState) : R RState :=
  match st.readRowGroup with
  | .ok st' => st'.skipEmpty st'.rowGroups.length
  | .error e => .error e

theorem next_boundary (st : RState) (h1 : st.err = false) (h2 : st.cursor < st.rows) (h3 : st.rgCursor ≥ st.rgCount) :
    st.next =
      match st.loadSkip with
      | .error .panic => .error .panic
      | .error .err => .ok (false, { st with err := true })
      | .ok st' => .ok (true, { st' with cursor := st'.cursor + 1, rgCursor := st'.rgCursor + 1 }) := by
  unfold RState.next RState.loadSkip
  rw [if_neg (by simp [h1]; omega), if_pos h3]
  rfl

theorem skipEmpty_nonempty (fuel : Nat) (st : RState) (h : st.rgCount ≠ 0) : st.skipEmpty fuel = .ok st := by
  cases fuel with
  | zero => rfl
  | succ f => rw [RState.skipEmpty, if_neg (by simp [h])]

theorem skipEmpty_nil (fuel : Nat) (st : RState) (h : st.rowGroups = []) : st.skipEmpty fuel = .ok st := by
  cases fuel with
  | zero => rfl
  | succ f => rw [RState.skipEmpty, if_neg (by simp [h])]

theorem readLoop_step (fuel : Nat) (st st' : RState) (acc : List Row)
    (row : Row) (bufs : List ColBuf) (hn : st.next = .ok (true, st')) (he : st'.err = false)
    (hf : st'.fieldsSet = true) (hs : scanAllEntries st'.cols st'.bufs = some (row, bufs)) :
    readLoop (fuel + 1) st acc = readLoop fuel { st' with bufs := bufs } (acc ++ [row]) := by
  rw [readLoop]
  simp only [hn, he, hf, hs, Bool.false_eq_true, if_false, Bool.not_true, false_and]

theorem readLoop_done (fuel : Nat) (st : RState) (acc : List Row)
    (h1 : st.err = false) (h2 : st.cursor ≥ st.rows) : readLoop (fuel + 1) st acc = some acc := by
  rw [readLoop, next_done st h1 h2]
  simp only [h1, Bool.false_eq_true, if_false]

/-- `ReadMetaData` is the first part of `NewParquetReader` -/
theorem openReader_eq_readMetaData (cols : List Col) (dc : Decomp) (file : Bytes) :
    openReader cols dc file =
      match readMetaData file with
      | .error e => .error e
      | .ok f =>
        match (if f.rowGroups.isEmpty then .ok (List.replicate cols.length []) else pagesOf cols f) with
        | .error e => .error e
        | .ok pages =>
          ({ cols := cols, dc := dc, src := { data := file, pos := 4 }, rows := f.numRows, pages := pages,
             rowGroups := f.rowGroups, bufs := List.replicate cols.length {} } : RState).readRowGroup := by
  unfold openReader readMetaData
  by_cases h1 : file.length < 8
  · rw [if_pos h1, if_pos h1]
  rw [if_neg h1, if_neg h1]
  by_cases h2 : file.drop (file.length - 4) ≠ [80, 65, 82, 49]
  · rw [if_pos h2, if_pos h2]
  rw [if_neg h2, if_neg h2]
  by_cases h3 : fromLE ((file.drop (file.length - 8)).take 4) + 8 > file.length
  · simp only [if_pos h3]
  simp only [if_neg h3]
  cases ({ data := file, pos := file.length - (fromLE ((file.drop (file.length - 8)).take 4) + 8) } : Src).readStruct with
  | error e => rfl
  | ok r =>
    obtain ⟨t, s⟩ := r
    simp only
    cases decFMD t <;> rfl

/-! ## what the calls leave alone: the columns and the error flag -/

theorem readRowGroup_go_frame (chs : List ChunkMeta) (st st' : RState) (h : RState.readRowGroup.go chs st = .ok st') :
    st'.cols = st.cols ∧ st'.err = st.err ∧ st'.rowGroups = st.rowGroups := by
  fun_induction RState.readRowGroup.go chs st
  case case7 ih => exact ih h
  all_goals cases h <;> exact ⟨rfl, rfl, rfl⟩

theorem readRowGroup_frame (st st' : RState) (h : st.readRowGroup = .ok st') :
    st'.cols = st.cols ∧ st'.err = st.err ∧ st'.rowGroups = st.rowGroups.tail := by
  unfold RState.readRowGroup at h
  split at h
  · next hr => cases h; exact ⟨rfl, rfl, by simp [hr]⟩
  · next hr =>
    simp only at h
    split at h
    · cases h
    · next hgo => cases h; obtain ⟨a, b, _⟩ := readRowGroup_go_frame _ _ _ hgo; exact ⟨a, b, by simp [hr]⟩

theorem skipEmpty_frame (fuel : Nat) (st st' : RState) (h : st.skipEmpty fuel = .ok st') :
    st'.cols = st.cols ∧ st'.err = st.err := by
  fun_induction RState.skipEmpty fuel st
  case case2 hr ih => obtain ⟨a, b⟩ := ih h; obtain ⟨c, d, _⟩ := readRowGroup_frame _ _ hr; exact ⟨a.trans c, b.trans d⟩
  all_goals cases h <;> exact ⟨rfl, rfl⟩

theorem loadSkip_of_loaded {st st' : RState} (h : st.readRowGroup = .ok st') (h0 : st'.rgCount ≠ 0) : st.loadSkip = .ok st' := by
  rw [RState.loadSkip, h]
  exact skipEmpty_nonempty _ _ h0

theorem loadSkip_of_error {st : RState} {e : RErr} (h : st.readRowGroup = .error e) : st.loadSkip = .error e := by
  rw [RState.loadSkip, h]

/-- the skipping loop, started on an empty row group with as much fuel as `Next` gives it, is `loadSkip` again -/
theorem skipEmpty_eq_loadSkip (st : RState) (h0 : st.rgCount = 0) (hne : st.rowGroups ≠ []) :
    st.skipEmpty st.rowGroups.length = st.loadSkip := by
  obtain ⟨n, hn⟩ : ∃ n, st.rowGroups.length = n + 1 := ⟨_, (Nat.succ_pred_eq_of_pos (List.length_pos_iff.mpr hne)).symm⟩
  rw [hn, RState.skipEmpty, if_pos ⟨h0, hne⟩, RState.loadSkip]
  cases hr : st.readRowGroup with
  | error e => rfl
  | ok st' => simp only [(readRowGroup_frame _ _ hr).2.2, List.length_tail, hn, Nat.add_sub_cancel]

theorem loadSkip_frame (st st' : RState) (h : st.loadSkip = .ok st') : st'.cols = st.cols ∧ st'.err = st.err := by
  unfold RState.loadSkip at h
  split at h
  · next hl =>
    obtain ⟨a, b⟩ := skipEmpty_frame _ _ _ h
    obtain ⟨c, d, _⟩ := readRowGroup_frame _ _ hl
    exact ⟨a.trans c, b.trans d⟩
  · cases h

/-- `Next` never changes the columns; **`Next` = true leaves the error flag as it was**: from an error-free
state the driver never sees "`Next` true with `Error() ≠ nil`" (the case in which it does not call `Scan`) -/
theorem next_frame (st st' : RState) (b : Bool) (h : st.next = .ok (b, st')) :
    st'.cols = st.cols ∧ (b = true → st'.err = st.err) := by
  unfold RState.next at h
  split at h
  · cases h; exact ⟨rfl, nofun⟩
  · simp only at h
    split at h
    · cases h
    · cases h; exact ⟨rfl, nofun⟩
    · next st2 hr =>
      cases h
      have : st2.cols = st.cols ∧ st2.err = st.err := by
        split at hr
        · exact loadSkip_frame _ _ hr
        · cases hr; exact ⟨rfl, rfl⟩
      exact ⟨this.1, fun _ => this.2⟩

theorem next_true_err (st st' : RState) (h : st.next = .ok (true, st')) : st'.err = st.err :=
  (next_frame st st' true h).2 rfl

theorem openReader_frame (cols : List Col) (dc : Decomp) (file : Bytes) (st : RState)
    (ho : openReader cols dc file = .ok st) : st.cols = cols ∧ st.err = false := by
  rw [openReader_eq_readMetaData] at ho
  split at ho
  · exact absurd ho (by simp)
  · split at ho
    · exact absurd ho (by simp)
    · exact ⟨(readRowGroup_frame _ _ ho).1, (readRowGroup_frame _ _ ho).2.1⟩

theorem touches_boundary (st : RState) (h1 : st.err = false) (h2 : st.cursor < st.rows) (h3 : st.rgCursor ≥ st.rgCount)
    (h4 : st.rowGroups ≠ []) : st.touches = true := by
  unfold RState.touches
  have a : decide (st.rgCursor ≥ st.rgCount) = true := by simp only [decide_eq_true_eq]; omega
  have b : decide (st.cursor ≥ st.rows) = false := by simp only [decide_eq_false_iff_not]; omega
  have c : st.rowGroups.isEmpty = false := by
    cases h : st.rowGroups with
    | nil => exact absurd h h4
    | cons _ _ => rfl
  rw [a, b, c, h1]
  rfl

/-- from `st`, successive `Next`/`Scan` calls deliver `rows` — each `Next` true without error, each `Scan`
without panic — and leave `st'`; `t` of these `Next` calls touch the source (`RState.touches`: they load a row
group).  What the drivers `readLoop`, `outLoop`, `outLoopF` do along such a run: `Delivers.readLoop` and its
likes. -/
inductive Delivers : RState → List Row → Nat → RState → Prop
  | nil (st : RState) : Delivers st [] 0 st
  | cons {st st' st'' : RState} {row : Row} {bufs : List ColBuf} {rows : List Row} {t t' : Nat}
      (hn : st.next = .ok (true, st')) (he : st'.err = false) (hf : st'.fieldsSet = true)
      (hs : scanAllEntries st'.cols st'.bufs = some (row, bufs))
      (tl : Delivers { st' with bufs := bufs } rows t st'') (ht : t' = st.touches.toNat + t) :
      Delivers st (row :: rows) t' st''

theorem Delivers.append {a b c : RState} {r1 r2 : List Row} {t1 t2 : Nat}
    (h1 : Delivers a r1 t1 b) (h2 : Delivers b r2 t2 c) : Delivers a (r1 ++ r2) (t1 + t2) c := by
  induction h1 with
  | nil => simpa using h2
  | cons hn he hf hs _ ht ih => exact .cons hn he hf hs (ih h2) (by omega)

theorem Delivers.readLoop {st st' : RState} {rows : List Row} {t : Nat}
    (h : Delivers st rows t st') (fuel : Nat) (acc : List Row) :
    readLoop (fuel + rows.length) st acc = readLoop fuel st' (acc ++ rows) := by
  induction h generalizing acc with
  | nil => simp
  | cons hn he hf hs _ _ ih =>
    rw [List.length_cons, ← Nat.add_assoc, readLoop_step _ _ _ acc _ _ hn he hf hs, ih]
    simp

end PQ
