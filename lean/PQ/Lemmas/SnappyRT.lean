import PQ.Model.Snappy
import PQ.Lemmas.Basic
/-!
The snappy specification decoder inverts every stream the nondeterministic encoder can emit.

`copyN off len out` is the decoder's copy loop (byte by byte, so a copy may overlap its own output).  The decoder is
followed element by element: `SnEl.OK` says when an element is valid for the output before it, `SnEl.expand` what the
output is after it; what `matchLen` finds is what makes the encoder's copies valid.
-/
namespace PQ

def copyN (off : Nat) : Nat → Bytes → Bytes
  | 0, o => o
  | n+1, o => copyN off n (o ++ [o.getD (o.length - off) 0])

theorem foldl_eq_copyN (off : Nat) (l : List Nat) (out : Bytes) :
    l.foldl (fun o _ => o ++ [o.getD (o.length - off) 0]) out = copyN off l.length out := by
  induction l generalizing out with
  | nil => rfl
  | cons a l ih => rw [List.foldl_cons, ih]; rfl

theorem snappyBody_lit1 (fuel n : Nat) (bs tail out : Bytes) (hn : n < 60) (hl : bs.length = n + 1) :
    snappyBody (fuel+1) (n * 4 :: (bs ++ tail)) out = snappyBody fuel tail (out ++ bs) := by
  conv => lhs; unfold snappyBody
  simp only [Nat.mul_mod_left, Nat.mul_div_cancel n (show 0 < 4 by decide), if_pos hn]
  rw [if_neg (by rw [List.length_append]; omega), ← hl, List.drop_left, List.take_left]

theorem snappyBody_lit2 (fuel n : Nat) (bs tail out : Bytes) (hl : bs.length = n + 1) :
    snappyBody (fuel+1) (60 * 4 :: n :: (bs ++ tail)) out = snappyBody fuel tail (out ++ bs) := by
  conv => lhs; unfold snappyBody
  simp only [Nat.reduceMul, Nat.reduceMod, Nat.reduceDiv, Nat.lt_irrefl, if_false, if_true, List.headD_cons,
    List.drop_succ_cons, List.drop_zero]
  rw [if_neg (by rw [List.length_append]; omega), ← hl, List.drop_left, List.take_left]

theorem snappyBody_lit3 (fuel n : Nat) (bs tail out : Bytes) (hn2 : n < 65536) (hl : bs.length = n + 1) :
    snappyBody (fuel+1) (61 * 4 :: (n % 256) :: (n / 256 % 256) :: (bs ++ tail)) out = snappyBody fuel tail (out ++ bs) := by
  conv => lhs; unfold snappyBody
  simp only [Nat.reduceMul, Nat.reduceMod, Nat.reduceDiv, Nat.reduceLT, Nat.reduceEqDiff, if_false, if_true,
    List.headD_cons, List.drop_succ_cons, List.drop_zero, List.getD_cons_succ, List.getD_cons_zero]
  rw [Nat.mod_eq_of_lt (Nat.div_lt_of_lt_mul (show n < 256 * 256 from hn2)), Nat.mod_add_div]
  rw [if_neg (by rw [List.length_append]; omega), ← hl, List.drop_left, List.take_left]

theorem snappyBody_copy1 (fuel off len : Nat) (tail out : Bytes) (h4 : 4 ≤ len) (h11 : len ≤ 11)
    (ho : off < 2048) (ho1 : 1 ≤ off) (ho2 : off ≤ out.length) :
    snappyBody (fuel+1) ((1 + (len - 4) * 4 + (off / 256) * 32) :: (off % 256) :: tail) out
      = snappyBody fuel tail (copyN off len out) := by
  conv => lhs; unfold snappyBody
  -- the tag: 1 in the low two bits, `len - 4` in the next three, `off / 256` above them
  have ht : 1 + (len - 4) * 4 + (off / 256) * 32 = 1 + ((len - 4) + (off / 256) * 8) * 4 := by
    rw [Nat.add_mul, Nat.mul_assoc, Nat.add_assoc]
  obtain ⟨e0, e1⟩ := add_mul_mod_div 1 ((len - 4) + (off / 256) * 8) (show 1 < 4 by decide)
  obtain ⟨e2, e3⟩ := add_mul_mod_div (len - 4) (off / 256) (Nat.sub_lt_left_of_lt_add h4 (show len < 4 + 8 from Nat.lt_succ_of_le h11))
  have e4 : (1 + ((len - 4) + (off / 256) * 8) * 4) / 32 = off / 256 := by
    rw [show 32 = 4 * 8 from rfl, ← Nat.div_div_eq_div_mul, e1, e3]
  simp only [ht, e0, e1, e2, e4, Nat.sub_add_cancel h4, Nat.div_add_mod' off 256]
  rw [if_neg (by omega), foldl_eq_copyN, List.length_range]

theorem snappyBody_copy2 (fuel off len : Nat) (tail out : Bytes) (h1 : 1 ≤ len)
    (ho : off < 65536) (ho1 : 1 ≤ off) (ho2 : off ≤ out.length) :
    snappyBody (fuel+1) ((2 + (len - 1) * 4) :: (off % 256) :: (off / 256 % 256) :: tail) out
      = snappyBody fuel tail (copyN off len out) := by
  conv => lhs; unfold snappyBody
  obtain ⟨e0, e1⟩ := add_mul_mod_div 2 (len - 1) (show 2 < 4 by decide)
  have e2 : fromLE [off % 256, off / 256 % 256] = off := fromLE_leBytes 2 off ho
  simp only [e0, e1, List.take_succ_cons, List.take_zero, e2, List.drop_succ_cons, List.drop_zero,
    List.length_cons, Nat.sub_add_cancel h1]
  rw [if_neg (by omega), if_neg (by omega), foldl_eq_copyN, List.length_range]

/-- validity of one element relative to the output produced so far -/
def SnEl.OK (hist : Bytes) : SnEl → Prop
  | .lit bs => 1 ≤ bs.length ∧ bs.length ≤ 65536
  | .copy off len => 1 ≤ off ∧ off ≤ hist.length ∧ off < 65536 ∧ 1 ≤ len ∧ len ≤ 64

/-- the output after one element -/
def SnEl.expand (hist : Bytes) : SnEl → Bytes
  | .lit bs => hist ++ bs
  | .copy off len => copyN off len hist

theorem SnEl.enc_ne_nil (e : SnEl) : 1 ≤ e.enc.length := by
  cases e with
  | lit bs => (simp only [SnEl.enc]; repeat' split) <;> simp
  | copy off len => simp only [SnEl.enc]; split <;> simp

theorem snappyBody_el (fuel : Nat) (e : SnEl) (hist tail : Bytes) (h : e.OK hist) :
    snappyBody (fuel+1) (e.enc ++ tail) hist = snappyBody fuel tail (e.expand hist) := by
  cases e with
  | lit bs =>
    obtain ⟨h1, h2⟩ := h
    simp only [SnEl.enc, SnEl.expand]
    by_cases a : bs.length - 1 < 60
    · rw [if_pos a, List.cons_append]
      exact snappyBody_lit1 fuel _ bs tail hist a (by omega)
    · rw [if_neg a]
      by_cases b : bs.length - 1 < 256
      · rw [if_pos b, List.cons_append, List.cons_append]
        exact snappyBody_lit2 fuel _ bs tail hist (by omega)
      · rw [if_neg b, List.cons_append, List.cons_append, List.cons_append]
        exact snappyBody_lit3 fuel _ bs tail hist (by omega) (by omega)
  | copy off len =>
    obtain ⟨h1, h2, h3, h4, h5⟩ := h
    simp only [SnEl.enc, SnEl.expand]
    by_cases a : 4 ≤ len ∧ len ≤ 11 ∧ off < 2048
    · rw [if_pos a]
      exact snappyBody_copy1 fuel off len tail hist a.1 a.2.1 a.2.2 h1 h2
    · rw [if_neg a]
      exact snappyBody_copy2 fuel off len tail hist h4 h3 h1 h2

theorem copyN_length (off n : Nat) (o : Bytes) : (copyN off n o).length = o.length + n := by
  induction n generalizing o with
  | zero => rfl
  | succ n ih => rw [copyN, ih]; simp; omega

/-- `m` is what `matchLen.go` adds to its accumulator; a copy of `len ≤ m` bytes overlaps its own output when
`len > off` -/
theorem matchLen_go_spec (off : Nat) (ho : 1 ≤ off) (fuel : Nat) (h r : Bytes) (n : Nat) :
    ∃ m, matchLen.go off fuel h r n = n + m ∧ m ≤ fuel ∧ m ≤ r.length ∧
      ∀ len, len ≤ m → copyN off len h = h ++ r.take len := by
  -- where the loop stops at once
  have stop : ∀ (fuel : Nat) (h r : Bytes) (n : Nat), ∃ m, n = n + m ∧ m ≤ fuel ∧ m ≤ r.length ∧
      ∀ len, len ≤ m → copyN off len h = h ++ r.take len := fun _ h _ _ =>
    ⟨0, rfl, Nat.zero_le _, Nat.zero_le _, fun len hl => by rw [Nat.le_zero.mp hl]; exact (List.append_nil h).symm⟩
  induction fuel generalizing h r n with
  | zero => exact stop 0 h r n
  | succ fuel ih =>
    cases r with
    | nil => exact stop _ h [] n
    | cons x r' =>
      rw [matchLen.go]
      split
      · rename_i hc
        obtain ⟨m, hm, i2, i3, i4⟩ := ih (h ++ [x]) r' (n + 1)
        refine ⟨m + 1, by rw [hm, Nat.add_assoc, Nat.add_comm 1], Nat.succ_le_succ i2, Nat.succ_le_succ i3, fun len hlen => ?_⟩
        cases len with
        | zero => exact (List.append_nil h).symm
        | succ len =>
          -- the byte at distance `off` is the next input byte (`hc`), so one step of the copy appends `x`
          have hget : h.getD (h.length - off) 0 = x := by
            have e : ∀ d, h.getD (h.length - off) d = h[h.length - off]'(by omega) := fun d => by
              rw [List.getD_eq_getElem?_getD, List.getElem?_eq_getElem (by omega), Option.getD_some]
            rw [e 0, ← e 256]; exact hc.2
          rw [copyN, hget, i4 len (Nat.le_of_succ_le_succ hlen), List.take_succ_cons, List.append_assoc]
          rfl
      · exact stop _ h _ n

theorem matchLen_spec (hist rest : Bytes) (off cap : Nat) (ho : 1 ≤ off) :
    matchLen hist rest off cap ≤ cap ∧ matchLen hist rest off cap ≤ rest.length
    ∧ ∀ len, len ≤ matchLen hist rest off cap → copyN off len hist = hist ++ rest.take len := by
  obtain ⟨m, hm, h⟩ := matchLen_go_spec off ho cap hist rest 0
  rw [show matchLen hist rest off cap = m from hm.trans (Nat.zero_add m)]
  exact h
theorem snappyElems_cons (fuel : Nat) (cs : Choices) (hist : Bytes) (x : Nat) (r' : Bytes) :
    snappyElems (fuel+1) cs hist (x :: r') =
      (let rest := x :: r'
       let c := (pick cs).1
       let k := (pick (pick cs).2).1
       let cs2 := (pick (pick cs).2).2
       let off := k % 40 + 1
       let ml := matchLen hist rest off 64
       if c % 3 ≠ 0 ∧ ml ≥ 1 ∧ off ≤ hist.length then
         let len := if c % 2 = 0 then ml else min ml (k % 11 + 1)
         .copy off len :: snappyElems fuel cs2 (hist ++ rest.take len) (rest.drop len)
       else
         let n := min rest.length (if c % 5 = 0 then k % 300 + 1 else k % 7 + 1)
         .lit (rest.take n) :: snappyElems fuel cs2 (hist ++ rest.take n) (rest.drop n)) := by
  rw [snappyElems]
  all_goals first | rfl | simp

theorem snappyElems_nil (fuel : Nat) (cs : Choices) (hist : Bytes) : snappyElems fuel cs hist [] = [] := by
  cases fuel <;> rfl

theorem snappyBody_nil (fuel : Nat) (out : Bytes) : snappyBody fuel [] out = some out := by
  cases fuel <;> rfl

/-- every element is valid for the output produced before it -/
def ElemsOK : Bytes → List SnEl → Prop
  | _, [] => True
  | hist, e :: es => e.OK hist ∧ ElemsOK (e.expand hist) es

/-- the output after all elements -/
def expandAll (hist : Bytes) (es : List SnEl) : Bytes := es.foldl (fun h e => e.expand h) hist

theorem snappyBody_elems (es : List SnEl) : ∀ (hist : Bytes), ElemsOK hist es → ∀ (dfuel : Nat) (tail : Bytes),
    es.length ≤ dfuel →
    snappyBody dfuel (es.flatMap SnEl.enc ++ tail) hist = snappyBody (dfuel - es.length) tail (expandAll hist es) := by
  induction es with
  | nil => intro hist _ dfuel tail _; rfl
  | cons e es ih =>
    intro hist h dfuel tail hd
    cases dfuel with
    | zero => exact absurd hd (Nat.not_succ_le_zero _)
    | succ d =>
      rw [List.flatMap_cons, List.append_assoc, snappyBody_el d e hist _ h.1, ih _ h.2 d tail (Nat.le_of_succ_le_succ hd),
        List.length_cons, Nat.succ_sub_succ]
      rfl

theorem snappyElems_ok (fuel : Nat) (cs : Choices) (hist rest : Bytes) (hf : rest.length ≤ fuel) :
    ElemsOK hist (snappyElems fuel cs hist rest) ∧ expandAll hist (snappyElems fuel cs hist rest) = hist ++ rest := by
  induction fuel generalizing cs hist rest with
  | zero =>
    rw [List.eq_nil_of_length_eq_zero (Nat.le_zero.mp hf), snappyElems_nil]
    exact ⟨trivial, (List.append_nil _).symm⟩
  | succ fuel ih =>
    cases rest with
    | nil => rw [snappyElems_nil]; exact ⟨trivial, (List.append_nil _).symm⟩
    | cons x r' =>
      rw [snappyElems_cons]
      simp only
      generalize (pick (pick cs).2).1 = k
      generalize (pick (pick cs).2).2 = cs2
      generalize (pick cs).1 = c
      generalize hrest : x :: r' = rest at *
      have hrl : 1 ≤ rest.length := by rw [← hrest]; exact Nat.succ_pos _
      obtain ⟨m1, m2, m3⟩ := matchLen_spec hist rest (k % 40 + 1) 64 (Nat.succ_pos _)
      -- either way the element consumes `n ≥ 1` bytes of `rest` and appends them to `hist`
      have step : ∀ (e : SnEl) (n : Nat), e.OK hist → e.expand hist = hist ++ rest.take n → 1 ≤ n →
          ElemsOK hist (e :: snappyElems fuel cs2 (hist ++ rest.take n) (rest.drop n)) ∧
          expandAll hist (e :: snappyElems fuel cs2 (hist ++ rest.take n) (rest.drop n)) = hist ++ rest := by
        intro e n hok he hn
        obtain ⟨i1, i2⟩ := ih cs2 (hist ++ rest.take n) (rest.drop n) (by rw [List.length_drop]; omega)
        exact ⟨⟨hok, he ▸ i1⟩, by rw [expandAll, List.foldl_cons, he, ← expandAll, i2, List.append_assoc,
          List.take_append_drop]⟩
      split
      · rename_i hc
        generalize hlen : (if c % 2 = 0 then matchLen hist rest (k % 40 + 1) 64
          else min (matchLen hist rest (k % 40 + 1) 64) (k % 11 + 1)) = len
        have hl : 1 ≤ len ∧ len ≤ matchLen hist rest (k % 40 + 1) 64 := by
          rw [← hlen]; split
          · exact ⟨hc.2.1, Nat.le_refl _⟩
          · exact ⟨Nat.le_min.mpr ⟨hc.2.1, Nat.succ_pos _⟩, Nat.min_le_left _ _⟩
        exact step _ len ⟨Nat.succ_pos _, hc.2.2, Nat.lt_of_le_of_lt (Nat.mod_lt k (by decide)) (by decide), hl.1,
          Nat.le_trans hl.2 m1⟩ (m3 len hl.2) hl.1
      · generalize hd : (if c % 5 = 0 then k % 300 + 1 else k % 7 + 1) = d
        have hd1 : 1 ≤ d ∧ d ≤ 300 := by
          rw [← hd]; split <;> exact ⟨Nat.succ_pos _, Nat.le_trans (Nat.mod_lt k (by decide)) (by decide)⟩
        have hn : (rest.take (min rest.length d)).length = min rest.length d := by
          rw [List.length_take]; exact Nat.min_eq_left (Nat.min_le_left _ _)
        have hn1 : 1 ≤ min rest.length d := Nat.le_min.mpr ⟨hrl, hd1.1⟩
        exact step _ _ ⟨by rw [hn]; exact hn1,
          by rw [hn]; exact Nat.le_trans (Nat.min_le_right _ _) (Nat.le_trans hd1.2 (by decide))⟩ rfl hn1

theorem flatMap_enc_length (els : List SnEl) : els.length ≤ (els.flatMap SnEl.enc).length := by
  induction els with
  | nil => exact Nat.zero_le _
  | cons e es ih =>
    rw [List.flatMap_cons, List.length_append, List.length_cons, Nat.add_comm]
    exact Nat.add_le_add e.enc_ne_nil ih

end PQ
