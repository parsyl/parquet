import PQ.Model.SinkFault
import PQ.Props.C09
/-!
# C09, whole run: the writer over a sink whose `k`-th write fails

`faultRun calls k` (Model/SinkFault.lean) cuts the fault-free run `calls` — per API call the writes it hands to the
sink, as `runWriter` lists them — at sink write `k`.  `faultRun_reports`: the call that contains write `k` is the one
that returns the error (`PQ.C09.failingCall`), every call before it completes with its fault-free writes.
`faultRun_sink_prefix`: the sink then holds exactly the first `k - 1` writes.
-/
namespace PQ
open PQ.C09

/-- no call of the fault-free run panicked (`runWriter` lists a panicking call as `none`) -/
def allSome (calls : List (Option (List Bytes))) : Prop := ∀ c ∈ calls, c.isSome = true

/-- per call of the fault-free run, the writes it hands to the sink -/
def writesOf (calls : List (Option (List Bytes))) : List (List Bytes) := calls.map (·.getD [])

/-- Calls none of which panics are `W.map some` for their write lists `W`; the theorems below put that in for
`calls` and go by induction on `W`. -/
theorem allSome.eq_map : ∀ {calls : List (Option (List Bytes))}, allSome calls → calls = (writesOf calls).map some
  | [], _ => rfl
  | none :: _, hs => by simpa using hs none List.mem_cons_self
  | some ws :: rest, hs => by
    rw [writesOf, List.map_cons, List.map_cons, Option.getD_some, ← writesOf,
      ← allSome.eq_map fun c hc => hs c (List.mem_cons_of_mem _ hc)]

theorem faultRun_later (ws : List Bytes) (W : List (List Bytes)) {k : Nat} (h : ws.length < k) :
    faultRun ((ws :: W).map some) k = .done ws :: faultRun (W.map some) (k - ws.length) := by
  rw [List.map_cons, faultRun, if_neg (Nat.ne_of_gt (Nat.zero_lt_of_lt h)), if_pos h]

theorem faultRun_here (ws : List Bytes) (W : List (List Bytes)) {k : Nat} (h1 : 1 ≤ k) (h : k ≤ ws.length) :
    faultRun ((ws :: W).map some) k = [.failed (ws.take (k - 1))] := by
  rw [List.map_cons, faultRun, if_neg (Nat.ne_of_gt h1), if_neg (Nat.not_lt.mpr h)]

/-- **A failing sink write is always reported.**  For every list of API calls none of which panics and every
`k` from 1 to the total number of sink writes: the run over the sink failing at write `k` consists of the
calls before the one that contains write `k` — each completed with exactly its fault-free writes — followed
by that call returning an error after the writes that precede write `k`; that call is `failingCall`. -/
theorem faultRun_reports : ∀ (calls : List (Option (List Bytes))) (k : Nat), allSome calls → 1 ≤ k →
    k ≤ ((writesOf calls).map List.length).sum →
    ∃ i, failingCall (writesOf calls) k = some i ∧ i < calls.length ∧
      faultRun calls k = ((writesOf calls).take i).map CallOut.done ++
        [CallOut.failed (((writesOf calls).getD i []).take (k - 1 - (((writesOf calls).take i).map List.length).sum))] := by
  intro calls k hs
  -- without loss of generality `calls = W.map some`
  have e := hs.eq_map
  generalize writesOf calls = W at e ⊢
  subst e
  clear hs
  rw [List.length_map]
  induction W generalizing k with
  | nil => intro _ h2; simp at h2; omega
  | cons ws W ih =>
    intro h1 h2
    rw [List.map_cons, List.sum_cons] at h2
    rw [failingCall]
    by_cases hlt : ws.length < k
    · obtain ⟨i, hi, hlen, hrun⟩ := ih (k - ws.length) (by omega) (by omega)
      refine ⟨i + 1, by rw [if_neg (Nat.not_le.mpr hlt), hi]; rfl, Nat.succ_lt_succ hlen, ?_⟩
      rw [faultRun_later ws W hlt, hrun, List.take_succ_cons, List.map_cons, List.map_cons, List.sum_cons,
        List.getD_cons_succ, List.cons_append, Nat.sub_right_comm k, Nat.sub_sub (k - 1)]
    · exact ⟨0, if_pos (Nat.not_lt.mp hlt), Nat.zero_lt_succ _, faultRun_here ws W h1 (Nat.not_lt.mp hlt)⟩

/-- the error is never swallowed: the run ends with a call that returned an error -/
theorem faultRun_ends_failed (calls : List (Option (List Bytes))) (k : Nat) (hs : allSome calls) (h1 : 1 ≤ k)
    (h2 : k ≤ ((writesOf calls).map List.length).sum) :
    ∃ ws, (faultRun calls k).getLast? = some (CallOut.failed ws) := by
  obtain ⟨i, _, _, hrun⟩ := faultRun_reports calls k hs h1 h2
  exact ⟨_, by rw [hrun, List.getLast?_append]; rfl⟩

/-- what the sink holds after the failed run: exactly the first `k - 1` writes of the fault-free run, in order
(nothing is written after the failure, nothing is skipped before it) -/
theorem faultRun_sink_prefix : ∀ (calls : List (Option (List Bytes))) (k : Nat), allSome calls → 1 ≤ k →
    k ≤ ((writesOf calls).map List.length).sum →
    (faultRun calls k).flatMap CallOut.writes = ((writesOf calls).flatten).take (k - 1) := by
  intro calls k hs h1 h2
  have e := hs.eq_map
  generalize writesOf calls = W at e ⊢
  subst e
  clear hs h2
  induction W generalizing k with
  | nil => exact List.take_nil.symm
  | cons ws W ih =>
    rw [List.flatten_cons, List.take_append]
    by_cases hlt : ws.length < k
    · rw [faultRun_later ws W hlt, List.flatMap_cons, ih (k - ws.length) (by omega),
        List.take_of_length_le (l := ws) (by omega), Nat.sub_right_comm]
      rfl
    · rw [faultRun_here ws W h1 (Nat.not_lt.mp hlt), Nat.sub_eq_zero_of_le (by omega : k - 1 ≤ ws.length)]
      simp [CallOut.writes]

/-- a sink that never fails: every call completes with its fault-free writes -/
theorem faultRun_zero : ∀ (calls : List (Option (List Bytes))), allSome calls →
    faultRun calls 0 = (writesOf calls).map CallOut.done := by
  intro calls hs
  have e := hs.eq_map
  generalize writesOf calls = W at e ⊢
  subst e
  clear hs
  induction W with
  | nil => rfl
  | cons ws W ih => rw [List.map_cons, faultRun, if_pos rfl, ih]; rfl

example : faultRun [some [[80,65,82,49]], some [], some [[1,2],[3]], some [[4],[5],[6]]] 3 =
    [.done [[80,65,82,49]], .done [], .failed [[1,2]]] := by decide
example : faultRun [some [[80,65,82,49]], some [], some [[1,2],[3]], some [[4],[5],[6]]] 1 = [.failed []] := by decide

end PQ
