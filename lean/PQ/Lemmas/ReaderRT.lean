import PQ.Lemmas.ReadLayout
import PQ.Lemmas.SchemaTree
/-!
# The generated reader on the files of the writer model: write-then-read returns exactly the records that were added

The files of the writer model as an instance of `Lemmas/ReadLayout.lean`: `batchGRGs` (the row groups of the
batches), `runWriter_framed`, `readAll_runWriter`; `readAll_text_runWriter` (the same on the line the harness
compares with the Go program).
-/
namespace PQ
open PQ.Thrift

theorem batch_rd (dc : Decomp) (k : Codec) (cols : List Col) {max : Nat} (hmax : 1 ≤ max) (b : List Rec)
    (hb : b ≠ []) (hok : BatchOK dc k cols max b) :
    (batchPItems cols max b).map (·.1) = cols ∧
    (∀ p ∈ batchPItems cols max b, ∀ es ∈ p.2, PageRd dc k p.1 es) ∧
    (batchPItems cols max b).map (fun p => colBufOf p.1 p.2.flatten) = bufsOf cols b ∧
    (∀ r ∈ b, ∀ x ∈ cols.zipIdx, RecRd x.1 (r.getD x.2 [])) := by
  refine ⟨batchPItems_cols cols max b, forall_batchPages cols hmax b hb hok.width _ fun ck hck x hx => ?_, ?_, ?_⟩
  · refine ⟨(hok.pages ck hck x hx).1, (hok.pages ck hck x hx).2, ?_⟩
    -- the chunk holds a record, and a record holds an entry for every column
    cases ck with
    | nil => exact absurd (NF_mem _ (chunksOf_NF hmax b hb) _ hck).1 (by simp)
    | cons r ck' =>
      obtain ⟨e, tl, he, _, _⟩ := hok.recs r (chunk_mem hmax b _ hck r List.mem_cons_self) x hx
      rw [List.flatMap_cons, he]
      simp
  · unfold batchPItems bufsOf
    rw [List.map_map]
    apply List.map_congr_left
    intro x hx
    simp only [Function.comp, colEntries_flatten hmax cols.length x.2 (List.mem_zipIdx' (x := x.1) hx).1 b hok.width]
  · intro r hr x hx
    refine ⟨hok.recs r hr x hx, ?_⟩
    rw [← chunksOf_flatten hmax b] at hr
    obtain ⟨ck, hck, hrck⟩ := List.mem_flatten.mp hr
    intro e he
    exact (hok.pages ck hck x hx).1.entries e (List.mem_flatMap.mpr ⟨r, hrck, he⟩)

/-- the row groups of a list of batches -/
def prgsOf (cols : List Col) (max : Nat) (bs : List (List Rec)) : List (Nat × List PItem) :=
  bs.map fun b => (b.length, batchPItems cols max b)

theorem histPrgs_eq (cols : List Col) (max : Nat) (body : List Op) : histPrgs cols max body = prgsOf cols max (batches body) := rfl

def pitemChunk (k : Codec) (p : PItem) : GChunk :=
  { col := p.1, pg := pageMetaOf k p.1 p.2, bytes := chunkBytes k p.1 p.2, es := p.2.flatten }

theorem gBytes_pitems (k : Codec) : ∀ pits : List PItem, gBytes (pits.map (pitemChunk k)) = pitemsBytes k pits
  | [] => rfl
  | p :: pits => by rw [List.map_cons, gBytes_cons, gBytes_pitems k pits, pitemsBytes_cons]; rfl

theorem metasFor_rgMetas (k : Codec) : ∀ (pits : List PItem) (pos : Nat),
    MetasFor (pits.map (pitemChunk k)) (rgMetas k pits pos)
  | [], _ => trivial
  | _ :: pits, _ => ⟨⟨_, rfl, rfl, rfl, rfl, rfl⟩, metasFor_rgMetas k pits _⟩

/-- the row groups of the batches `bs`, laid out back to back from `pos` -/
def batchGRGs (k : Codec) (cols : List Col) (max : Nat) : List (List Rec) → Nat → List GRG
  | [], _ => []
  | b :: bs, pos =>
    { recs := b, chunks := (batchPItems cols max b).map (pitemChunk k), rgm := rgMetaOf k b.length (batchPItems cols max b) pos } ::
      batchGRGs k cols max bs (pos + (pitemsBytes k (batchPItems cols max b)).length)

theorem batchGRGs_spec (k : Codec) (cols : List Col) (max : Nat) : ∀ (bs : List (List Rec)) (pos : Nat),
    (batchGRGs k cols max bs pos).map (·.recs) = bs ∧
    (batchGRGs k cols max bs pos).map (·.rgm) = fileMetas k (prgsOf cols max bs) pos ∧
    dataOf (batchGRGs k cols max bs pos) = prgsBytes k (prgsOf cols max bs)
  | [], _ => ⟨rfl, rfl, rfl⟩
  | b :: bs, pos => by
    obtain ⟨h1, h2, h3⟩ := batchGRGs_spec k cols max bs (pos + (pitemsBytes k (batchPItems cols max b)).length)
    refine ⟨?_, ?_, ?_⟩
    · rw [batchGRGs, List.map_cons, h1]
    · rw [batchGRGs, List.map_cons, h2]; rfl
    · rw [batchGRGs, dataOf_cons, h3, gBytes_pitems]
      exact (prgsBytes_cons k (b.length, batchPItems cols max b) (prgsOf cols max bs)).symm

theorem batchGRGs_append (k : Codec) (cols : List Col) (max : Nat) : ∀ (a b : List (List Rec)) (p : Nat),
    batchGRGs k cols max (a ++ b) p =
      batchGRGs k cols max a p ++ batchGRGs k cols max b (p + (prgsBytes k (prgsOf cols max a)).length)
  | [], b, p => rfl
  | x :: a, b, p => by
    rw [List.cons_append, batchGRGs, batchGRGs, batchGRGs_append k cols max a b, List.cons_append]
    congr 3
    show _ = p + (prgsBytes k ((x.length, batchPItems cols max x) :: prgsOf cols max a)).length
    rw [prgsBytes_cons, List.length_append, Nat.add_assoc]

theorem batchGRGs_ok (dc : Decomp) (k : Codec) (cols : List Col) {max : Nat} (hmax : 1 ≤ max) :
    ∀ (bs : List (List Rec)) (pos : Nat), (∀ b ∈ bs, b ≠ [] ∧ BatchOK dc k cols max b) →
      ∀ g ∈ batchGRGs k cols max bs pos, g.OK dc cols
  | [], _, _, g, hg => by simp [batchGRGs] at hg
  | b :: bs, pos, hbs, g, hg => by
    rw [batchGRGs] at hg
    rcases List.mem_cons.mp hg with rfl | hg
    · obtain ⟨h1, h2, h3, h4⟩ := batch_rd dc k cols hmax b (hbs b List.mem_cons_self).1 (hbs b List.mem_cons_self).2
      refine ⟨⟨by rw [List.map_map]; exact h1, metasFor_rgMetas k _ _⟩, rfl, ?_, by rw [List.map_map]; exact h3, h4⟩
      intro ch hch
      obtain ⟨p, hp, rfl⟩ := List.mem_map.mp hch
      exact chunkReads_chunk dc k p.1 p.2 (h2 p hp)
    · exact batchGRGs_ok dc k cols hmax bs _ (fun b' hb' => hbs b' (List.mem_cons_of_mem _ hb')) g hg

/-- **The file of a `Close`d history, as the reader's lemmas see it**: the data region are the row groups of the batches, each of them in order,
and the footer lists exactly these row groups. -/
theorem runWriter_framed (dc : Decomp) (k : Codec) (cols : List Col) (max : Nat) (body : List Op)
    (hmax : 1 ≤ max) (hcols : cols ≠ []) (hbody : ∀ op ∈ body, op.isClose = false)
    (hok : ∀ b ∈ batches body, BatchOK dc k cols max b)
    (hsize : (fileBytes (runWriter cols max k (body ++ [Op.close]))).length < 2 ^ 32)
    (se : List SElem) (hschema : schemaElems cols = some se) :
    ∃ f : FMD, (∀ g ∈ batchGRGs k cols max (batches body) 4, g.OK dc cols) ∧
      Framed (dataOf (batchGRGs k cols max (batches body) 4)) f (fileBytes (runWriter cols max k (body ++ [Op.close]))) ∧
      f.rowGroups = (batchGRGs k cols max (batches body) 4).map (·.rgm) ∧
      f.numRows = ((recsIn (batchGRGs k cols max (batches body) 4) : Nat) : Int) := by
  obtain ⟨g1, g2, g3⟩ := batchGRGs_spec k cols max (batches body) 4
  have hsum : recsIn (batchGRGs k cols max (batches body) 4) = ((batches body).map List.length).sum := by
    conv => rhs; rw [← g1]
    rw [List.map_map]; rfl
  have hfr := runWriter_framed_prgs k cols max body hmax hcols hbody hsize se _ hschema (mapM_decSElem se)
  rw [histPrgs_eq, ← g3, ← g2] at hfr
  exact ⟨_, batchGRGs_ok dc k cols hmax _ 4 (fun b hb => ⟨batches_ne_nil body b hb, hok b hb⟩), hfr, rfl,
    by rw [hsum]⟩

/-- **C01 for the reader model, explicit form.**  Every `Close`d history of `Add`s and `Write`s whose
batches are `BatchOK`, read back with the generated reader: `Rows()` is the number of written
records, `Next()` is true exactly that many times, the `k`-th `Scan` consumes, for every column,
exactly the entries the `k`-th written record holds for it, and `Error()` is nil at the end.

`hres`: the joined column names are pairwise distinct (`ColsResolve`); `hsize`: the file is smaller
than 4 GiB; `hschema`: `schema()` does not panic. -/
theorem readAll_runWriter (dc : Decomp) (k : Codec) (cols : List Col) (max : Nat) (body : List Op)
    (hmax : 1 ≤ max) (hcols : cols ≠ []) (hres : ColsResolve cols) (hbody : ∀ op ∈ body, op.isClose = false)
    (hok : ∀ b ∈ batches body, BatchOK dc k cols max b)
    (hsize : (fileBytes (runWriter cols max k (body ++ [Op.close]))).length < 2 ^ 32)
    (se : List SElem) (hschema : schemaElems cols = some se) :
    readAllEntries cols dc (fileBytes (runWriter cols max k (body ++ [Op.close]))) =
      some (((((batches body).map List.length).sum : Nat) : Int),
            (batches body).flatten.map (fun r => (List.range cols.length).map fun i => r.getD i [])) := by
  obtain ⟨f, hgs, hfr, hrg, hN⟩ := runWriter_framed dc k cols max body hmax hcols hbody hok hsize se hschema
  obtain ⟨hrecs, _, _⟩ := batchGRGs_spec k cols max (batches body) 4
  rw [readAll_gen dc cols _ hres _ hgs f hfr hrg hN]
  generalize batchGRGs k cols max (batches body) 4 = gs at hrecs ⊢
  rw [← hrecs, List.flatMap_def, recsIn, List.map_map]
  rfl

/-- **C01 for the reader model, with hypotheses on the added records** (the hypotheses of
`parseFile_runWriter_records`, minus the schema-decoding ones the reader does not look at, plus
`hres`: the joined column names are pairwise distinct). -/
theorem readAll_runWriter_records (dc : Decomp) (k : Codec) (cols : List Col) (max : Nat) (body : List Op)
    (hmax : 1 ≤ max) (hcols : cols ≠ []) (hres : ColsResolve cols) (hbody : ∀ op ∈ body, op.isClose = false)
    (hrec : ∀ r, Op.add r ∈ body → r.length = cols.length ∧ ∀ x ∈ cols.zipIdx, RecColOK x.1 (r.getD x.2 []))
    (hdef : ∀ c ∈ cols, c.maxDef ≤ 15)
    (hlen : ∀ b ∈ batches body, ∀ x ∈ cols.zipIdx, (b.flatMap (·.getD x.2 [])).length + 8 ≤ 2 ^ 30)
    (hcodec : ∀ raw, CodecOK dc k (k.id : Int) raw)
    (hsize : (fileBytes (runWriter cols max k (body ++ [Op.close]))).length < 2 ^ 32)
    (se : List SElem) (hschema : schemaElems cols = some se) :
    readAllEntries cols dc (fileBytes (runWriter cols max k (body ++ [Op.close]))) =
      some (((((batches body).map List.length).sum : Nat) : Int), (batches body).flatten.map (rowOf cols.length)) := by
  apply readAll_runWriter dc k cols max body hmax hcols hres hbody _ hsize se hschema
  intro b hb
  exact batchOK_of_records dc k cols hmax b
    (fun r hr => (hrec r (mem_batches_added body b hb r hr)).1)
    (fun r hr => (hrec r (mem_batches_added body b hb r hr)).2)
    hdef (hlen b hb) hcodec

/-- `Next()` is true exactly `Rows()` times: the number of delivered rows is the number of written records -/
theorem readAll_runWriter_counts (dc : Decomp) (k : Codec) (cols : List Col) (max : Nat) (body : List Op)
    (hmax : 1 ≤ max) (hcols : cols ≠ []) (hres : ColsResolve cols) (hbody : ∀ op ∈ body, op.isClose = false)
    (hok : ∀ b ∈ batches body, BatchOK dc k cols max b)
    (hsize : (fileBytes (runWriter cols max k (body ++ [Op.close]))).length < 2 ^ 32)
    (se : List SElem) (hschema : schemaElems cols = some se) :
    ∃ rows, readAllEntries cols dc (fileBytes (runWriter cols max k (body ++ [Op.close]))) =
        some (((((batches body).map List.length).sum : Nat) : Int), rows) ∧
      rows.length = ((batches body).map List.length).sum := by
  refine ⟨_, readAll_runWriter dc k cols max body hmax hcols hres hbody hok hsize se hschema, ?_⟩
  rw [List.length_map, List.length_flatten]

/-! ## Non-vacuity: two columns, `max = 2`, history add ×3, write, write, add ×2, write, add, close -/
section NonVacuity

private def rxCols : List Col :=
  [{ path := ["a"], reps := [.req], ty := .i32 }, { path := ["b"], reps := [.rpt], ty := .i32 }]
private def rxCodec : Codec := { id := 0, compress := id }
private def rxDc : Decomp := { snappy := fun _ => none, gzip := fun _ => none }
/-- record `k`: `a = k`, `b = [k, k + 256]` for even `k` and `[]` for odd `k` -/
private def rxRec (k : Nat) : Rec :=
  [[{ rep := 0, dl := 0, val := some [k, 0, 0, 0] }],
   if k % 2 = 0 then [{ rep := 0, dl := 1, val := some [k, 0, 0, 0] }, { rep := 1, dl := 1, val := some [k, 1, 0, 0] }]
   else [{ rep := 0, dl := 0, val := none }]]
private def rxBody : List Op :=
  [.add (rxRec 1), .add (rxRec 2), .add (rxRec 3), .write, .write, .add (rxRec 4), .add (rxRec 5), .write, .add (rxRec 6)]
private def rxSe : List SElem :=
  [{ name := "root", numChildren := some 2 }, { name := "a", ty := some 1, rep := some 0 },
   { name := "b", ty := some 1, rep := some 2 }]

private theorem rx_batches : batches rxBody = [[rxRec 1, rxRec 2, rxRec 3], [rxRec 4, rxRec 5]] := by decide

private theorem rx_ok : ∀ b ∈ batches rxBody, BatchOK rxDc rxCodec rxCols 2 b := by
  rw [rx_batches]
  intro b hb
  refine batchOK_of_records rxDc rxCodec rxCols (by decide) b ?_ ?_ (by decide) ?_ fun _ => .inl ⟨rfl, rfl⟩
  all_goals revert b; decide

/-- the theorem applied: two row groups (pages of 2 + 1 and of 2 records), an empty `Write`, a record
pending at `Close`: the reader reports 5 rows and delivers the five written records, in order -/
example : readAllEntries rxCols rxDc (fileBytes (runWriter rxCols 2 rxCodec (rxBody ++ [Op.close]))) =
    some (5, [rxRec 1, rxRec 2, rxRec 3, rxRec 4, rxRec 5]) := by
  have := readAll_runWriter rxDc rxCodec rxCols 2 rxBody (by decide) (by decide)
    (colsResolve_of_check _ (by decide +kernel)) (by decide) rx_ok (by decide +kernel) rxSe (by decide +kernel)
  rw [rx_batches] at this
  exact this

end NonVacuity

/-- **C01 on the line the harness compares with the Go program**: for the writer's file the text driver
prints `open=ok`, `rows=` the number of written records, as many `Next`s, `err=ok`, and per record the
texts `Scan` produces from exactly the record's entries (for striped projections: the projections
themselves, `PQ.C01.scan_is_projection`). -/
theorem readAll_text_runWriter (dc : Decomp) (k : Codec) (cols : List Col) (max : Nat) (body : List Op)
    (hmax : 1 ≤ max) (hcols : cols ≠ []) (hres : ColsResolve cols) (hbody : ∀ op ∈ body, op.isClose = false)
    (hok : ∀ b ∈ batches body, BatchOK dc k cols max b)
    (hsize : (fileBytes (runWriter cols max k (body ++ [Op.close]))).length < 2 ^ 32)
    (se : List SElem) (hschema : schemaElems cols = some se) :
    let recs := (batches body).flatten.map fun r => rowText cols ((List.range cols.length).map fun i => r.getD i [])
    readAll cols dc (fileBytes (runWriter cols max k (body ++ [Op.close]))) =
      s!"open=ok rows={((((batches body).map List.length).sum : Nat) : Int)} nexts={((batches body).map List.length).sum} err=ok recs={if recs.isEmpty then "-" else ";".intercalate recs}" := by
  intro recs
  have h := readAll_of_entries cols dc _ _ _ (readAll_runWriter dc k cols max body hmax hcols hres hbody hok hsize se hschema)
  rw [h]
  simp only [List.length_map, List.length_flatten, List.map_map]
  rfl

end PQ
