import PQ.Lemmas.ForeignPage
import PQ.Lemmas.ReadLayout
import PQ.Lemmas.SchemaTree
/-!
# What `specWriteLog` lays out, for every choice stream and with or without a mutated page

`specWriteLog` (PQ/Model/SpecWriter.lean) is three nested recursions (`groups`, `chunks`, `emit`) threading the
choices, the file position and the optional mutation `mu0`.  Here they are re-expressed once, for any `mu0`, as
explicit functions of the input (`swPages`, `swChunks` / `swChunkMetas`, `swGroups`: the row groups as the reader
lemmas of Lemmas/ReadLayout.lean describe them), ending in `specWrite_framed`: the file is `Framed`, with a footer
(`rgT`, `footerOf`: the thrift values of Lemmas/ChunkRT.lean, FileRT.lean) that decodes to exactly this description.

The mutation enters through `mutAt` / `codecAt` only: the choices consumed, the page splits and every size in
the footer but the mutated chunk's own are those of the unmutated writer (`spChunks`, `spChunkCs`), and where
`mutAt` leaves the pages alone the bytes are the unmutated writer's (`swGChunk_off`: such a chunk is `spGChunk`).
-/
namespace PQ
open PQ.Thrift

/-- the pages of the chunk of column `ci` of the row group `recs` (cut at record boundaries by the choices) and the
choices left after the split -/
def spSplit (recs : List Rec) (ci : Nat) (cs : Choices) : List PageEntries × Choices :=
  splitPages ((recs.map fun r => r.getD ci []).length + 1) cs (recs.map fun r => r.getD ci [])

/-- the chunk of column `c` (index `ci`, codec `codec`) of the row group `recs`, written with the choices `cs` -/
def spGChunk (cfg : SWCfg) (compress : Nat → Bytes → Bytes) (recs : List Rec) (c : Col) (codec ci : Nat) (cs : Choices) :
    GChunk :=
  let perRec := recs.map fun r => r.getD ci []
  let sp := splitPages (perRec.length + 1) cs perRec
  { col := c, pg := spPageMeta cfg c codec (compress codec) sp.1 sp.2,
    bytes := (spEmit cfg c codec (compress codec) sp.1 sp.2).1, es := perRec.flatten }

/-- the choices left after that chunk -/
def spChunkCs (cfg : SWCfg) (compress : Nat → Bytes → Bytes) (recs : List Rec) (c : Col) (codec ci : Nat) (cs : Choices) :
    Choices :=
  let perRec := recs.map fun r => r.getD ci []
  let sp := splitPages (perRec.length + 1) cs perRec
  (spEmit cfg c codec (compress codec) sp.1 sp.2).2

/-- the chunks of a row group, column by column, threading the choices -/
def spChunks (cfg : SWCfg) (compress : Nat → Bytes → Bytes) (recs : List Rec) : List (Col × Nat) → Nat → Choices → List GChunk × Choices
  | [], _, cs => ([], cs)
  | (c, codec) :: rest, ci, cs =>
    (spGChunk cfg compress recs c codec ci cs ::
        (spChunks cfg compress recs rest (ci + 1) (spChunkCs cfg compress recs c codec ci cs)).1,
      (spChunks cfg compress recs rest (ci + 1) (spChunkCs cfg compress recs c codec ci cs)).2)

/-- the choices left when the writer gets to row group number `j` (the mutation does not change them) -/
def csAtGroup (cfg : SWCfg) (compress : Nat → Bytes → Bytes) : List (List Rec) → Nat → Choices → Choices
  | _, 0, cs => cs
  | [], _+1, cs => cs
  | recs :: rest, j+1, cs => csAtGroup cfg compress rest j (spChunks cfg compress recs (cfg.cols.zip cfg.codecs) 0 cs).2

/-- uncompressed minus stored payload lengths, summed over the pages: what the writer adds to the chunk's
length to get `total_uncompressed_size` -/
def spEmitDelta (cfg : SWCfg) (c : Col) (codec : Nat) (compress : Bytes → Bytes) : List PageEntries → Choices → Int
  | [], _ => 0
  | p :: ps, cs =>
    spEmitDelta cfg c codec compress ps (spDefSeg cfg c cs p).2 + ((spRaw cfg c cs p).length : Int) -
      ((spComp codec compress (spRaw cfg c cs p)).length : Int)

def spMdExtra (cfg : SWCfg) : List (Nat × TVal) := if cfg.withExtras then [(100, .int 6 5)] else []

/-- the `ColumnMetaData` / `ColumnChunk` thrift structs the spec writer puts in the footer -/
def spMdT (cfg : SWCfg) (c : Col) (codec nv : Nat) (tu : Int) (tc pos : Nat) : TVal :=
  .struct ([(1, .int 5 c.ty.phys), (2, .list 5 [.int 5 0, .int 5 3]), (3, .list 8 (c.path.map fun n => .bin (strBytes n))),
            (4, .int 5 codec), (5, .int 6 nv), (6, .int 6 tu), (7, .int 6 tc), (9, .int 6 pos)] ++ spMdExtra cfg)

def spChunkT (cfg : SWCfg) (c : Col) (codec nv : Nat) (tu : Int) (tc pos : Nat) : TVal :=
  .struct [(2, .int 6 (cfg.fileOff pos tc)), (3, spMdT cfg c codec nv tu tc pos)]

/-- what `ColumnChunk.Read` makes of it -/
def spChunkMeta (cfg : SWCfg) (c : Col) (codec nv : Nat) (tu : Int) (tc pos : Nat) : ChunkMeta :=
  { fileOffset := cfg.fileOff pos tc,
    md := some { ty := c.ty.phys, encodings := [0, 3], path := c.path.map strBytes, codec := codec,
                 numValues := nv, totalUncompressed := tu, totalCompressed := tc, dataPageOffset := pos } }

theorem decChunk_spChunkT (cfg : SWCfg) (c : Col) (codec nv : Nat) (tu : Int) (tc pos : Nat) :
    decChunk (spChunkT cfg c codec nv tu tc pos) = some (spChunkMeta cfg c codec nv tu tc pos) := by
  unfold spChunkT spMdT
  -- every field `ColumnMetaData.Read` asks for stands in front of the optional ones
  generalize spMdExtra cfg = ex
  simp [decChunk, spChunkMeta, TVal.fieldsOf, getI64, getI32, getList, decColMeta, List.lookup, filterMap_binOf, intOf]

theorem spChunkT_wf (cfg : SWCfg) (c : Col) (codec nv : Nat) (tu : Int) (tc pos : Nat) :
    ElemOK (spChunkT cfg c codec nv tu tc pos) := by
  obtain ⟨h1, h2⟩ := pathT_wf c.path
  have hex : WFFields 9 (spMdExtra cfg) ∧ slackFields (spMdExtra cfg) = 0 := by
    unfold spMdExtra
    split <;> simp [WFFields, TVal.WF, tI64, slackFields, TVal.slack]
  unfold spChunkT spMdT
  generalize spMdExtra cfg = ex at hex
  refine ⟨rfl, ?_, ?_⟩
  · simp [TVal.WF, WFFields, WFList, okCode, TVal.ecode, TVal.code, tI32, tI64, tBin, tTrue, tList, tStruct] at h1 ⊢
    exact ⟨h1, hex.1⟩
  · simp [TVal.slack, slackFields, slackList, hex.2]
    omega

/-- the schema elements are thrift forms of `SElem`s, as the library's writer emits them -/
theorem specSchema_go_toT (fr : Col → List Rep) (co : List String → Nat) :
    ∀ (fuel : Nat) (cols : List Col) (seen : List (List String)), ∀ t ∈ specSchema.go fr co fuel cols seen,
      ∃ e : SElem, t = e.toT
  | 0, _, _, t, ht => by simp [specSchema.go] at ht
  | _+1, [], _, t, ht => by simp [specSchema.go] at ht
  | fuel+1, c :: rest, seen, t, ht => by
    rw [specSchema.go] at ht
    simp only [List.mem_append, List.mem_map, List.mem_singleton] at ht
    rcases ht with (⟨p, _, rfl⟩ | rfl) | ht
    · exact ⟨{ name := p.getLast?.getD "", rep := some ((fr c).getD (p.length - 1) .req).code, numChildren := some (co p) }, rfl⟩
    · exact ⟨{ name := c.path.getLast?.getD "", ty := some c.ty.phys, rep := some ((fr c).getLast?.getD .req).code,
               converted := c.ty.converted }, rfl⟩
    · exact specSchema_go_toT fr co fuel rest _ t ht

theorem specSchema_toT (cols : List Col) : ∀ t ∈ specSchema cols, ∃ e : SElem, t = e.toT := by
  intro t ht
  rcases List.mem_cons.mp ht with rfl | ht
  · exact ⟨{ name := "schema", numChildren := some _ }, rfl⟩
  · exact specSchema_go_toT _ _ _ _ _ t ht

/-- the optional footer fields (key/value metadata, `created_by`) -/
def spFooterExtra (cfg : SWCfg) : List (Nat × TVal) :=
  if cfg.withExtras then
    [(5, .list 12 [.struct [(1, .bin (strBytes "k")), (2, .bin (strBytes "v"))]]), (6, .bin (strBytes "specWrite (Lean)"))]
  else []

theorem spFooterExtra_wf (cfg : SWCfg) : WFFields 4 (spFooterExtra cfg) ∧ slackFields (spFooterExtra cfg) = 0 := by
  cases he : cfg.withExtras <;>
    simp [spFooterExtra, he, WFFields, TVal.WF, WFList, okCode, TVal.ecode, TVal.code, tStruct, tBin, tList, tTrue, tI32, tI64,
      slackFields, TVal.slack, slackList]

/-- as `emit` and `chunks` compute them: the mutation of page `pi` of the chunk of column `ci` in row group `rgi`,
and the codec id the footer declares for that chunk -/
def mutAt (mu0 : Option MutAt) (rgi ci pi : Nat) : Mutation :=
  match mu0 with
  | some m => if m.rg = rgi ∧ m.col = ci ∧ m.page = pi then m.m else .none
  | none => .none

def codecAt (mu0 : Option MutAt) (rgi ci codec : Nat) : Nat :=
  match mu0 with
  | some m => if m.rg = rgi ∧ m.col = ci then (match m.m with | .codec k => k | _ => codec) else codec
  | none => codec

def MutOff (mu0 : Option MutAt) (rgi ci : Nat) : Prop := ∀ m, mu0 = some m → ¬ (m.rg = rgi ∧ m.col = ci)

theorem MutOff.none (rgi ci : Nat) : MutOff none rgi ci := fun _ h => by cases h

theorem MutOff.of_rg {m : MutAt} {rgi : Nat} (h : m.rg ≠ rgi) (ci : Nat) : MutOff (some m) rgi ci :=
  fun _ e hc => by cases e; exact h hc.1

theorem MutOff.of_col {m : MutAt} {ci : Nat} (h : m.col ≠ ci) (rgi : Nat) : MutOff (some m) rgi ci :=
  fun _ e hc => by cases e; exact h hc.2

theorem mutAt_off {mu0 : Option MutAt} {rgi ci : Nat} (h : MutOff mu0 rgi ci) (pi : Nat) : mutAt mu0 rgi ci pi = .none := by
  cases mu0 with
  | none => rfl
  | some m => exact if_neg fun hc => h m rfl ⟨hc.1, hc.2.1⟩

theorem codecAt_off {mu0 : Option MutAt} {rgi ci : Nat} (h : MutOff mu0 rgi ci) (codec : Nat) : codecAt mu0 rgi ci codec = codec := by
  cases mu0 with
  | none => rfl
  | some m => exact if_neg (h m rfl)

/-- consecutive pages, numbered from `pi`, page `i` written with the mutation `mf i`; the choices a page leaves
do not depend on its mutation (`specPageBytes_snd`), so they are threaded as without one -/
def swPages (cfg : SWCfg) (c : Col) (codec : Nat) (compress : Bytes → Bytes) (mf : Nat → Mutation) :
    List PageEntries → Nat → Choices → Bytes
  | [], _, _ => []
  | p :: ps, pi, cs =>
    (specPageBytes cfg c codec compress (mf pi) cs p).1 ++ swPages cfg c codec compress mf ps (pi + 1) (spDefSeg cfg c cs p).2

/-- the mutation leaves the bytes of the page alone: none, or one of the chunk's metadata (the codec id) -/
def Mutation.keepsPage : Mutation → Bool
  | .none => true
  | .codec _ => true
  | _ => false

theorem specPageBytes_keeps (cfg : SWCfg) (c : Col) (codec : Nat) (compress : Bytes → Bytes) {m : Mutation} (h : m.keepsPage = true)
    (cs : Choices) (es : PageEntries) :
    specPageBytes cfg c codec compress m cs es = specPageBytes cfg c codec compress .none cs es := by
  cases m with
  | none => rfl
  | codec k => rfl
  | _ => cases h

theorem swPages_none (cfg : SWCfg) (c : Col) (codec : Nat) (compress : Bytes → Bytes) (mf : Nat → Mutation) :
    ∀ (ps : List PageEntries) (pi : Nat) (cs : Choices), (∀ i, pi ≤ i → i < pi + ps.length → (mf i).keepsPage = true) →
      swPages cfg c codec compress mf ps pi cs = (spEmit cfg c codec compress ps cs).1
  | [], _, _, _ => rfl
  | p :: ps, pi, cs, h => by
    rw [swPages, specPageBytes_keeps cfg c codec compress (h pi (Nat.le_refl _) (by simp)), specPageBytes_spPage, spEmit_cons,
      swPages_none cfg c codec compress mf ps (pi + 1) _ (fun i h1 h2 => h i (by omega) (by simp only [List.length_cons]; omega))]

theorem swPages_append (cfg : SWCfg) (c : Col) (codec : Nat) (compress : Bytes → Bytes) (mf : Nat → Mutation) :
    ∀ (a b : List PageEntries) (pi : Nat) (cs : Choices),
      swPages cfg c codec compress mf (a ++ b) pi cs =
        swPages cfg c codec compress mf a pi cs ++ swPages cfg c codec compress mf b (pi + a.length) (spEmit cfg c codec compress a cs).2
  | [], b, pi, cs => by simp [swPages, spEmit]
  | p :: ps, b, pi, cs => by
    simp only [List.cons_append, swPages, spEmit, swPages_append cfg c codec compress mf ps b, List.append_assoc,
      List.length_cons]
    rw [show pi + 1 + ps.length = pi + (ps.length + 1) by omega]

theorem swPages_at (cfg : SWCfg) (c : Col) (codec : Nat) (compress : Bytes → Bytes) (mf : Nat → Mutation) (a : List PageEntries)
    (p : PageEntries) (b : List PageEntries) (cs : Choices) (h : ∀ i < a.length, (mf i).keepsPage = true) :
    swPages cfg c codec compress mf (a ++ p :: b) 0 cs =
      (spEmit cfg c codec compress a cs).1 ++
        ((specPageBytes cfg c codec compress (mf a.length) (spEmit cfg c codec compress a cs).2 p).1 ++
          swPages cfg c codec compress mf b (a.length + 1) (spDefSeg cfg c (spEmit cfg c codec compress a cs).2 p).2) := by
  rw [swPages_append, swPages_none cfg c codec compress mf a 0 cs (fun i _ hi => h i (by omega)), Nat.zero_add]
  rfl

theorem emit_cons (cfg : SWCfg) (compress : Nat → Bytes → Bytes) (mu0 : Option MutAt) (rgi : Nat) (c : Col) (codec ci : Nat)
    (p : PageEntries) (ps : List PageEntries) (pi : Nat) (cs : Choices) :
    specWriteLog.chunks.emit cfg compress mu0 rgi c codec ci (p :: ps) pi cs =
      (let r := specPageBytes cfg c codec (compress codec) (mutAt mu0 rgi ci pi) cs p
       let e := specWriteLog.chunks.emit cfg compress mu0 rgi c codec ci ps (pi + 1) r.2.2.2
       (r.1 ++ e.1, (codec, r.2.1) :: e.2.1, e.2.2.1 + (r.2.1.length : Int) - (r.2.2.1 : Int), e.2.2.2)) := by
  -- the equations generated for `emit` (and `chunks`) are stated per constructor of `mu0`
  cases mu0 <;> rw [specWriteLog.chunks.emit] <;> rfl

theorem emit_spec (cfg : SWCfg) (compress : Nat → Bytes → Bytes) (mu0 : Option MutAt) (rgi : Nat) (c : Col) (codec ci : Nat) :
    ∀ (pages : List PageEntries) (pi : Nat) (cs : Choices), ∃ log,
      specWriteLog.chunks.emit cfg compress mu0 rgi c codec ci pages pi cs =
        (swPages cfg c codec (compress codec) (mutAt mu0 rgi ci) pages pi cs, log,
         spEmitDelta cfg c codec (compress codec) pages cs, (spEmit cfg c codec (compress codec) pages cs).2)
  | [], pi, cs => ⟨[], by cases mu0 <;> rw [specWriteLog.chunks.emit] <;> rfl⟩
  | p :: ps, pi, cs => by
    obtain ⟨log, ih⟩ := emit_spec cfg compress mu0 rgi c codec ci ps (pi + 1) (spDefSeg cfg c cs p).2
    rw [emit_cons]
    simp only [specPageBytes_snd, ih]
    exact ⟨_, rfl⟩

/-- the chunk of column `ci` in row group `rgi` of the file written with the mutation `mu0`: split as `spGChunk`,
with the pages `mutAt` and the codec id `codecAt` say -/
def swGChunk (cfg : SWCfg) (compress : Nat → Bytes → Bytes) (mu0 : Option MutAt) (rgi : Nat) (recs : List Rec) (c : Col)
    (codec ci : Nat) (cs : Choices) : GChunk :=
  { col := c,
    pg := { n := ((((spSplit recs ci cs).1.map List.length).sum : Nat) : Int),
            size := (((swPages cfg c codec (compress codec) (mutAt mu0 rgi ci) (spSplit recs ci cs).1 0 (spSplit recs ci cs).2).length : Nat) : Int),
            codec := ((codecAt mu0 rgi ci codec : Nat) : Int) },
    bytes := swPages cfg c codec (compress codec) (mutAt mu0 rgi ci) (spSplit recs ci cs).1 0 (spSplit recs ci cs).2,
    es := (recs.map fun r => r.getD ci []).flatten }

theorem swGChunk_off (cfg : SWCfg) (compress : Nat → Bytes → Bytes) {mu0 : Option MutAt} {rgi ci : Nat} (h : MutOff mu0 rgi ci)
    (recs : List Rec) (c : Col) (codec : Nat) (cs : Choices) :
    swGChunk cfg compress mu0 rgi recs c codec ci cs = spGChunk cfg compress recs c codec ci cs := by
  have hp := swPages_none cfg c codec (compress codec) (mutAt mu0 rgi ci) (spSplit recs ci cs).1 0 (spSplit recs ci cs).2
    (fun i _ _ => by rw [mutAt_off h i]; rfl)
  simp only [swGChunk, hp, codecAt_off h]
  rfl

/-- the choices are consumed as without mutation -/
def swChunks (cfg : SWCfg) (compress : Nat → Bytes → Bytes) (mu0 : Option MutAt) (rgi : Nat) (recs : List Rec) :
    List (Col × Nat) → Nat → Choices → List GChunk
  | [], _, _ => []
  | (c, codec) :: rest, ci, cs =>
    swGChunk cfg compress mu0 rgi recs c codec ci cs ::
      swChunks cfg compress mu0 rgi recs rest (ci + 1) (spChunkCs cfg compress recs c codec ci cs)

theorem swChunks_off (cfg : SWCfg) (compress : Nat → Bytes → Bytes) {mu0 : Option MutAt} {rgi : Nat} (recs : List Rec) :
    ∀ (ccs : List (Col × Nat)) (ci : Nat) (cs : Choices), (∀ i, ci ≤ i → i < ci + ccs.length → MutOff mu0 rgi i) →
      swChunks cfg compress mu0 rgi recs ccs ci cs = (spChunks cfg compress recs ccs ci cs).1
  | [], _, _, _ => rfl
  | (c, codec) :: rest, ci, cs, h => by
    rw [swChunks, spChunks, swGChunk_off cfg compress (h ci (Nat.le_refl _) (by simp)),
      swChunks_off cfg compress recs rest _ _ (fun i h1 h2 => h i (by omega) (by simp only [List.length_cons]; omega))]

theorem swChunks_append (cfg : SWCfg) (compress : Nat → Bytes → Bytes) (mu0 : Option MutAt) (rgi : Nat) (recs : List Rec) :
    ∀ (a b : List (Col × Nat)) (ci : Nat) (cs : Choices),
      swChunks cfg compress mu0 rgi recs (a ++ b) ci cs =
        swChunks cfg compress mu0 rgi recs a ci cs ++
          swChunks cfg compress mu0 rgi recs b (ci + a.length) (spChunks cfg compress recs a ci cs).2
  | [], b, ci, cs => rfl
  | (c, codec) :: a, b, ci, cs => by
    rw [List.cons_append, swChunks, swChunks, swChunks_append cfg compress mu0 rgi recs a b, spChunks, List.length_cons,
      List.cons_append, show ci + 1 + a.length = ci + (a.length + 1) by omega]

theorem swChunks_cols (cfg : SWCfg) (compress : Nat → Bytes → Bytes) (mu0 : Option MutAt) (rgi : Nat) (recs : List Rec) :
    ∀ (ccs : List (Col × Nat)) (ci : Nat) (cs : Choices),
      (swChunks cfg compress mu0 rgi recs ccs ci cs).map (·.col) = ccs.map (·.1)
  | [], _, _ => rfl
  | (c, codec) :: rest, ci, cs => by
    rw [swChunks, List.map_cons, List.map_cons, swChunks_cols cfg compress mu0 rgi recs rest]
    rfl

/-- the footer's `ColumnChunk`s of row group `rgi` as `ColumnChunk.Read` decodes them, the chunks laid out from `pos` -/
def swChunkMetas (cfg : SWCfg) (compress : Nat → Bytes → Bytes) (mu0 : Option MutAt) (rgi : Nat) (recs : List Rec) :
    List (Col × Nat) → Nat → Choices → Nat → List ChunkMeta
  | [], _, _, _ => []
  | (c, codec) :: rest, ci, cs, pos =>
    spChunkMeta cfg c (codecAt mu0 rgi ci codec) ((recs.map fun r => r.getD ci []).map List.length).sum
      (((swGChunk cfg compress mu0 rgi recs c codec ci cs).bytes.length : Int) +
        spEmitDelta cfg c codec (compress codec) (spSplit recs ci cs).1 (spSplit recs ci cs).2)
      (swGChunk cfg compress mu0 rgi recs c codec ci cs).bytes.length pos ::
    swChunkMetas cfg compress mu0 rgi recs rest (ci + 1) (spChunkCs cfg compress recs c codec ci cs)
      (pos + (swGChunk cfg compress mu0 rgi recs c codec ci cs).bytes.length)

theorem spSplit_numValues (recs : List Rec) (ci : Nat) (cs : Choices) :
    ((spSplit recs ci cs).1.map List.length).sum = ((recs.map fun r => r.getD ci []).map List.length).sum := by
  rw [← List.length_flatten, ← List.length_flatten]
  exact congrArg List.length (splitPages_spec _ cs _ (by omega)).1

theorem splitPages_ne_nil (fuel : Nat) (cs : Choices) (r : PageEntries) (rs : List PageEntries) :
    (splitPages (fuel + 1) cs (r :: rs)).1 ≠ [] := by
  rw [splitPages_cons]
  simp

theorem metasFor_swChunks (cfg : SWCfg) (compress : Nat → Bytes → Bytes) (mu0 : Option MutAt) (rgi : Nat) (recs : List Rec) :
    ∀ (ccs : List (Col × Nat)) (ci : Nat) (cs : Choices) (pos : Nat),
      MetasFor (swChunks cfg compress mu0 rgi recs ccs ci cs) (swChunkMetas cfg compress mu0 rgi recs ccs ci cs pos)
  | [], _, _, _ => trivial
  | (c, codec) :: rest, ci, cs, pos =>
    ⟨⟨_, rfl, rfl, by simp only [swGChunk, spSplit_numValues], rfl, rfl⟩, metasFor_swChunks cfg compress mu0 rgi recs rest _ _ _⟩

/-- the codec id as `specWriteLog` computes it (an `Int`, the casts at the leaves) -/
theorem codecAt_cast (mu0 : Option MutAt) (rgi ci codec : Nat) :
    (match mu0 with
      | some m => if m.rg = rgi ∧ m.col = ci then (match m.m with | .codec k => (k : Int) | _ => (codec : Int)) else (codec : Int)
      | none => (codec : Int)) = ((codecAt mu0 rgi ci codec : Nat) : Int) := by
  cases mu0 with
  | none => rfl
  | some m =>
    simp only [codecAt]
    split
    · cases m.m <;> rfl
    · rfl

theorem chunks_nil (cfg : SWCfg) (compress : Nat → Bytes → Bytes) (mu0 : Option MutAt) (rgi : Nat) (recs : List Rec) (ci : Nat)
    (cs : Choices) (pos : Nat) : specWriteLog.chunks cfg compress mu0 rgi recs [] ci cs pos = ([], [], [], cs) := by
  cases mu0 <;> rw [specWriteLog.chunks]

theorem chunks_cons (cfg : SWCfg) (compress : Nat → Bytes → Bytes) (mu0 : Option MutAt) (rgi : Nat) (recs : List Rec) (c : Col)
    (codec : Nat) (rest : List (Col × Nat)) (ci : Nat) (cs : Choices) (pos : Nat) :
    specWriteLog.chunks cfg compress mu0 rgi recs ((c, codec) :: rest) ci cs pos =
      (let em := specWriteLog.chunks.emit cfg compress mu0 rgi c codec ci (spSplit recs ci cs).1 0 (spSplit recs ci cs).2
       let r := specWriteLog.chunks cfg compress mu0 rgi recs rest (ci + 1) em.2.2.2 (pos + em.1.length)
       (spChunkT cfg c (codecAt mu0 rgi ci codec) ((recs.map fun r => r.getD ci []).map List.length).sum
          ((em.1.length : Int) + em.2.2.1) em.1.length pos :: r.1,
        em.1 ++ r.2.1, em.2.1 ++ r.2.2.1, r.2.2.2)) := by
  simp only [spChunkT, spMdT, spMdExtra, ← codecAt_cast]
  cases mu0 <;> rw [specWriteLog.chunks] <;> rfl

theorem chunks_spec (cfg : SWCfg) (compress : Nat → Bytes → Bytes) (mu0 : Option MutAt) (rgi : Nat) (recs : List Rec) :
    ∀ (ccs : List (Col × Nat)) (ci : Nat) (cs : Choices) (pos : Nat), ∃ ts log,
      specWriteLog.chunks cfg compress mu0 rgi recs ccs ci cs pos =
        (ts, gBytes (swChunks cfg compress mu0 rgi recs ccs ci cs), log, (spChunks cfg compress recs ccs ci cs).2) ∧
      ts.mapM decChunk = some (swChunkMetas cfg compress mu0 rgi recs ccs ci cs pos) ∧
      ∀ t ∈ ts, ElemOK t
  | [], ci, cs, pos => ⟨[], [], chunks_nil .., rfl, by simp⟩
  | (c, codec) :: rest, ci, cs, pos => by
    obtain ⟨elog, he⟩ := emit_spec cfg compress mu0 rgi c codec ci (spSplit recs ci cs).1 0 (spSplit recs ci cs).2
    obtain ⟨ts, log, hc, hdec, hwf⟩ := chunks_spec cfg compress mu0 rgi recs rest (ci + 1)
      (spEmit cfg c codec (compress codec) (spSplit recs ci cs).1 (spSplit recs ci cs).2).2
      (pos + (swPages cfg c codec (compress codec) (mutAt mu0 rgi ci) (spSplit recs ci cs).1 0 (spSplit recs ci cs).2).length)
    rw [chunks_cons]
    simp only [he, hc]
    exact ⟨_ :: ts, _, rfl, by rw [List.mapM_cons, decChunk_spChunkT, hdec]; rfl,
      List.forall_mem_cons.2 ⟨spChunkT_wf .., hwf⟩⟩

/-- the row groups, numbered from `rgi`, the first laid out from `pos`, each with the footer's `RowGroup` as
`RowGroup.Read` decodes it -/
def swGroups (cfg : SWCfg) (compress : Nat → Bytes → Bytes) (mu0 : Option MutAt) :
    List (List Rec) → Nat → Choices → Nat → List GRG
  | [], _, _, _ => []
  | recs :: rest, rgi, cs, pos =>
    { recs := recs, chunks := swChunks cfg compress mu0 rgi recs (cfg.cols.zip cfg.codecs) 0 cs,
      rgm := { columns := swChunkMetas cfg compress mu0 rgi recs (cfg.cols.zip cfg.codecs) 0 cs pos,
               totalByteSize := ((gBytes (swChunks cfg compress mu0 rgi recs (cfg.cols.zip cfg.codecs) 0 cs)).length : Nat),
               numRows := (recs.length : Nat) } } ::
    swGroups cfg compress mu0 rest (rgi + 1) (spChunks cfg compress recs (cfg.cols.zip cfg.codecs) 0 cs).2
      (pos + (gBytes (swChunks cfg compress mu0 rgi recs (cfg.cols.zip cfg.codecs) 0 cs)).length)

theorem swGroups_recs (cfg : SWCfg) (compress : Nat → Bytes → Bytes) (mu0 : Option MutAt) :
    ∀ (rowGroups : List (List Rec)) (rgi : Nat) (cs : Choices) (pos : Nat),
      (swGroups cfg compress mu0 rowGroups rgi cs pos).map (·.recs) = rowGroups
  | [], _, _, _ => rfl
  | recs :: rest, rgi, cs, pos => by rw [swGroups, List.map_cons, swGroups_recs cfg compress mu0 rest]

theorem recsIn_swGroups (cfg : SWCfg) (compress : Nat → Bytes → Bytes) (mu0 : Option MutAt) (rowGroups : List (List Rec))
    (rgi : Nat) (cs : Choices) (pos : Nat) :
    recsIn (swGroups cfg compress mu0 rowGroups rgi cs pos) = (rowGroups.map List.length).sum := by
  have := congrArg (fun l => (l.map List.length).sum) (swGroups_recs cfg compress mu0 rowGroups rgi cs pos)
  rw [← this, List.map_map]
  rfl

theorem swGroups_getElem? (cfg : SWCfg) (compress : Nat → Bytes → Bytes) (mu0 : Option MutAt) :
    ∀ (rowGroups : List (List Rec)) (rgi : Nat) (cs : Choices) (pos : Nat) (j : Nat) (g : GRG),
      (swGroups cfg compress mu0 rowGroups rgi cs pos)[j]? = some g →
      g.chunks = swChunks cfg compress mu0 (rgi + j) g.recs (cfg.cols.zip cfg.codecs) 0 (csAtGroup cfg compress rowGroups j cs) ∧
      MetasFor g.chunks g.rgm.columns ∧ g.rgm.numRows = ((g.recs.length : Nat) : Int) ∧ rowGroups[j]? = some g.recs
  | [], _, _, _, _, _, h => by simp [swGroups] at h
  | recs :: rest, rgi, cs, pos, 0, g, h => by
    simp only [swGroups, List.getElem?_cons_zero, Option.some.injEq] at h
    subst h
    exact ⟨rfl, metasFor_swChunks .., rfl, rfl⟩
  | recs :: rest, rgi, cs, pos, j+1, g, h => by
    simp only [swGroups, List.getElem?_cons_succ] at h
    have := swGroups_getElem? cfg compress mu0 rest _ _ _ j g h
    rwa [show rgi + 1 + j = rgi + (j + 1) by omega] at this

theorem groups_nil (cfg : SWCfg) (compress : Nat → Bytes → Bytes) (mu0 : Option MutAt) (rgi : Nat) (cs : Choices) (pos : Nat) :
    specWriteLog.groups cfg compress mu0 [] rgi cs pos = ([], [], []) := by
  rw [specWriteLog.groups]

theorem groups_cons (cfg : SWCfg) (compress : Nat → Bytes → Bytes) (mu0 : Option MutAt) (recs : List Rec) (rest : List (List Rec))
    (rgi : Nat) (cs : Choices) (pos : Nat) :
    specWriteLog.groups cfg compress mu0 (recs :: rest) rgi cs pos =
      (let ch := specWriteLog.chunks cfg compress mu0 rgi recs (cfg.cols.zip cfg.codecs) 0 cs pos
       let r := specWriteLog.groups cfg compress mu0 rest (rgi + 1) ch.2.2.2 (pos + ch.2.1.length)
       (rgT ch.1 ch.2.1.length recs.length :: r.1, ch.2.1 ++ r.2.1, ch.2.2.1 ++ r.2.2)) := by
  rw [specWriteLog.groups]
  rfl

theorem groups_spec (cfg : SWCfg) (compress : Nat → Bytes → Bytes) (mu0 : Option MutAt) :
    ∀ (rowGroups : List (List Rec)) (rgi : Nat) (cs : Choices) (pos : Nat), ∃ ts log,
      specWriteLog.groups cfg compress mu0 rowGroups rgi cs pos = (ts, dataOf (swGroups cfg compress mu0 rowGroups rgi cs pos), log) ∧
      ts.mapM decRG = some ((swGroups cfg compress mu0 rowGroups rgi cs pos).map (·.rgm)) ∧
      ∀ t ∈ ts, ElemOK t
  | [], rgi, cs, pos => ⟨[], [], groups_nil .., rfl, by simp⟩
  | recs :: rest, rgi, cs, pos => by
    obtain ⟨cts, clog, hc, hcdec, hcwf⟩ := chunks_spec cfg compress mu0 rgi recs (cfg.cols.zip cfg.codecs) 0 cs pos
    obtain ⟨ts, log, hg, hdec, hwf⟩ := groups_spec cfg compress mu0 rest (rgi + 1) (spChunks cfg compress recs (cfg.cols.zip cfg.codecs) 0 cs).2
      (pos + (gBytes (swChunks cfg compress mu0 rgi recs (cfg.cols.zip cfg.codecs) 0 cs)).length)
    rw [groups_cons]
    simp only [hc, hg]
    exact ⟨_ :: ts, _, rfl, by rw [List.mapM_cons, decRG_rgT _ _ _ _ hcdec, hdec]; rfl,
      List.forall_mem_cons.2 ⟨rgT_wf _ _ _ hcwf, hwf⟩⟩

theorem specWriteLog_eq (cfg : SWCfg) (compress : Nat → Bytes → Bytes) (mu0 : Option MutAt) (cs : Choices)
    (rowGroups : List (List Rec)) :
    (specWriteLog cfg compress mu0 cs rowGroups).1 =
      par1 ++ (specWriteLog.groups cfg compress mu0 rowGroups 0 cs 4).2.1 ++
        ((footerOf (specSchema cfg.cols) (rowGroups.map List.length).sum (specWriteLog.groups cfg compress mu0 rowGroups 0 cs 4).1
            (spFooterExtra cfg)).enc ++
          le32 (footerOf (specSchema cfg.cols) (rowGroups.map List.length).sum
            (specWriteLog.groups cfg compress mu0 rowGroups 0 cs 4).1 (spFooterExtra cfg)).enc.length ++
          par1) := by
  simp only [specWriteLog, footerOf, spFooterExtra, List.append_assoc]

/-- **The file of the spec writer, with or without a mutation, as the reader's lemmas see it**: framed, the data
region being the chunks of `swGroups`, the footer listing exactly these -/
theorem specWrite_framed (cfg : SWCfg) (compress : Nat → Bytes → Bytes) (mu0 : Option MutAt) (cs : Choices)
    (rowGroups : List (List Rec)) (hsize : (specWrite cfg compress mu0 cs rowGroups).length < 2 ^ 32) :
    ∃ sd, (specSchema cfg.cols).mapM decSElem = some sd ∧
      Framed (dataOf (swGroups cfg compress mu0 rowGroups 0 cs 4))
        { version := 1, schema := sd, numRows := ((rowGroups.map List.length).sum : Nat),
          rowGroups := (swGroups cfg compress mu0 rowGroups 0 cs 4).map (·.rgm) }
        (specWrite cfg compress mu0 cs rowGroups) := by
  obtain ⟨rgs, log, hg, g2, g3⟩ := groups_spec cfg compress mu0 rowGroups 0 cs 4
  obtain ⟨sd, hsd⟩ := mapM_some_of_isSome decSElem (specSchema cfg.cols)
    fun t ht => by obtain ⟨e, rfl⟩ := specSchema_toT cfg.cols t ht; rw [decSElem_toT]; rfl
  have hfile := specWriteLog_eq cfg compress mu0 cs rowGroups
  simp only [hg] at hfile
  have hwf := footerOf_wf (specSchema cfg.cols) (rowGroups.map List.length).sum rgs (spFooterExtra cfg)
    (fun t ht => by obtain ⟨e, rfl⟩ := specSchema_toT cfg.cols t ht; exact selem_wf e) g3 (spFooterExtra_wf cfg)
  refine ⟨sd, hsd, _, hwf, ?_, decFMD_footerOf _ _ rgs _ sd _ hsd g2, hfile⟩
  unfold specWrite at hsize
  rw [hfile] at hsize
  simp only [List.length_append] at hsize
  omega

end PQ
