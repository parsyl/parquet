import PQ.Lemmas.ForeignRT
import PQ.Lemmas.IntrospectRT
/-!
# The introspection calls on the files of the independent spec writer (C16)

`ReadMetaData`, `PageHeadersAtOffset` and `PageHeaders` (`PQ/Model/Introspect.lean`) on the files
`specWrite cfg compress none cs rowGroups` emits, for every choice stream (every page split, every run
segmentation), per-column codecs, statistics / unknown thrift fields present or not, row groups without
records anywhere in the file.

The right-hand sides replay the writer: the decoded headers of the pages (`spPageHdr`, `spEmitHdrs`, `spChunkHdrs`;
per chunk, in file order: `spFileHdrss`) and the footer's entries with the offsets at which the chunks lie
(`spChunkMetas`, `spRGMetas`: what `swChunkMetas` / `swGroups` of Lemmas/SpecLayout.lean give without a mutation).
What the calls report of one `ColumnChunk` (`ChunkListed`) for any pages, and `PageHeaders` as the concatenation of
what is listed chunk by chunk: Lemmas/IntrospectRT.lean; here the chunks of the spec writer are walked.
-/
namespace PQ
open PQ.Thrift

/-- the decoded headers of consecutive pages (each written with the choices its predecessors left) -/
def spEmitHdrs (cfg : SWCfg) (c : Col) (codec : Nat) (compress : Bytes → Bytes) : List PageEntries → Choices → List PHdr
  | [], _ => []
  | p :: ps, cs => spPageHdr cfg c codec compress cs p :: spEmitHdrs cfg c codec compress ps (spDefSeg cfg c cs p).2

theorem spEmitHdrs_length (cfg : SWCfg) (c : Col) (codec : Nat) (compress : Bytes → Bytes) :
    ∀ (ess : List PageEntries) (cs : Choices), (spEmitHdrs cfg c codec compress ess cs).length = ess.length
  | [], _ => rfl
  | p :: ps, cs => by simp [spEmitHdrs, spEmitHdrs_length cfg c codec compress ps]

theorem spGPages_spec (cfg : SWCfg) (c : Col) (codec : Nat) (compress : Bytes → Bytes) (n : Int) :
    ∀ (ess : List PageEntries) (cs : Choices),
      (spGPages cfg c codec compress ess cs).map (·.ph) = spEmitHdrs cfg c codec compress ess cs ∧
      (∀ p ∈ spGPages cfg c codec compress ess cs, p.Walks) ∧
      ∀ (nRead : Int) (readOne : Bool), coverBy (·.es.length) n nRead readOne (spGPages cfg c codec compress ess cs) =
        spGPages cfg c codec compress (coverPrefix n nRead readOne ess) cs
  | [], _ => ⟨rfl, by simp [spGPages], fun _ _ => rfl⟩
  | p :: ps, cs => by
    obtain ⟨h2, h4, h5⟩ := spGPages_spec cfg c codec compress n ps (spDefSeg cfg c cs p).2
    refine ⟨?_, ?_, ?_⟩
    · rw [spGPages, List.map_cons, h2, spEmitHdrs]; rfl
    · rw [spGPages]
      exact List.forall_mem_cons.2 ⟨spGPage_walks cfg c codec compress cs p, h4⟩
    · intro nRead readOne
      rw [spGPages, coverBy, coverPrefix, h5]
      split <;> rfl

/-- **`PageHeadersAtOffset(r, o, n)` at the first page of a chunk of the spec writer**, wherever it lies, for
any `n` up to the chunk's `num_values`: the headers of the pages of `coverPrefix` (the shortest non-empty
prefix of the chunk's pages whose `num_values` reach `n`, `coverPrefix_eq_take`). -/
theorem pageHeadersAt_spCover_at (cfg : SWCfg) (c : Col) (codec : Nat) (compress : Bytes → Bytes) (ess : List PageEntries)
    (cs : Choices) (n : Int) (hne : ess ≠ []) (hn : n ≤ (((ess.map List.length).sum : Nat) : Int)) {file : Bytes} {pos : Nat}
    {post : Bytes} (hl : file.drop pos = (spEmit cfg c codec compress ess cs).1 ++ post) :
    pageHeadersAt file (pos : Nat) n = .ok (spEmitHdrs cfg c codec compress (coverPrefix n 0 (decide (n > 0)) ess) cs) := by
  obtain ⟨_, h4, h5⟩ := spGPages_spec cfg c codec compress n ess cs
  obtain ⟨h2, _, _⟩ := spGPages_spec cfg c codec compress n (coverPrefix n 0 (decide (n > 0)) ess) cs
  obtain ⟨h1, _⟩ := spGPages_bytes cfg c codec compress ess cs
  rw [pageHeadersAt_gen _ pos (spGPages cfg c codec compress ess cs) n
    (by cases ess with
        | nil => exact absurd rfl hne
        | cons _ _ => simp [spGPages])
    (by rw [spGPages_lengths]; exact hn)
    h4 (post := post) (by rw [h1]; exact hl), h5, h2]

theorem pageHeadersAt_spCover (cfg : SWCfg) (c : Col) (codec : Nat) (compress : Bytes → Bytes) (ess : List PageEntries)
    (cs : Choices) (pre post : Bytes) (n : Int) (hne : ess ≠ []) (hn : n ≤ (((ess.map List.length).sum : Nat) : Int)) :
    pageHeadersAt (pre ++ (spEmit cfg c codec compress ess cs).1 ++ post) (pre.length : Nat) n =
      .ok (spEmitHdrs cfg c codec compress (coverPrefix n 0 (decide (n > 0)) ess) cs) :=
  pageHeadersAt_spCover_at cfg c codec compress ess cs n hne hn (drop_of_eq_append (List.append_assoc ..) rfl)

/-- asked for the chunk's `num_values`, with no page empty: one header per page, in order -/
theorem pageHeadersAt_spAll (cfg : SWCfg) (c : Col) (codec : Nat) (compress : Bytes → Bytes) (ess : List PageEntries)
    (cs : Choices) (hne : ess ≠ []) (hpages : ∀ es ∈ ess, es ≠ []) {file : Bytes} {pos : Nat} {post : Bytes}
    (hl : file.drop pos = (spEmit cfg c codec compress ess cs).1 ++ post) :
    pageHeadersAt file (pos : Nat) (((ess.map List.length).sum : Nat) : Int) = .ok (spEmitHdrs cfg c codec compress ess cs) := by
  rw [pageHeadersAt_spCover_at cfg c codec compress ess cs _ hne (by omega) hl, coverPrefix_all _ ess 0 _ hpages (by omega)]

/-- asked for `n ≤ 0` values: exactly one header, the one at the offset -/
theorem pageHeadersAt_spZero (cfg : SWCfg) (c : Col) (codec : Nat) (compress : Bytes → Bytes) (es : PageEntries)
    (ess : List PageEntries) (cs : Choices) (n : Int) (hn : n ≤ 0) {file : Bytes} {pos : Nat} {post : Bytes}
    (hl : file.drop pos = (spEmit cfg c codec compress (es :: ess) cs).1 ++ post) :
    pageHeadersAt file (pos : Nat) n = .ok [spPageHdr cfg c codec compress cs es] := by
  rw [pageHeadersAt_spCover_at cfg c codec compress (es :: ess) cs n (by simp) (Int.le_trans hn (Int.natCast_nonneg _)) hl,
    coverPrefix_eq_coverBy, coverBy_nonpos _ n hn]
  rfl

theorem spEmit_append (cfg : SWCfg) (c : Col) (codec : Nat) (compress : Bytes → Bytes) :
    ∀ (a b : List PageEntries) (cs : Choices),
      (spEmit cfg c codec compress (a ++ b) cs).1 =
        (spEmit cfg c codec compress a cs).1 ++ (spEmit cfg c codec compress b (spEmit cfg c codec compress a cs).2).1
  | [], b, cs => by simp [spEmit]
  | p :: ps, b, cs => by
    simp only [List.cons_append, spEmit, spEmit_append cfg c codec compress ps b, List.append_assoc]

/-- **`PageHeadersAtOffset` started at ANY page of a chunk of the spec writer** (`before` = the pages of the
chunk in front of the offset): the headers of the shortest non-empty prefix of the remaining pages `ess`
whose `num_values` reach `n`. -/
theorem pageHeadersAt_spPageCover (cfg : SWCfg) (c : Col) (codec : Nat) (compress : Bytes → Bytes)
    (before ess : List PageEntries) (cs : Choices) (pre post : Bytes) (n : Int) (hne : ess ≠ [])
    (hn : n ≤ (((ess.map List.length).sum : Nat) : Int)) :
    pageHeadersAt (pre ++ (spEmit cfg c codec compress (before ++ ess) cs).1 ++ post)
        ((pre.length + (spEmit cfg c codec compress before cs).1.length : Nat) : Int) n =
      .ok (spEmitHdrs cfg c codec compress (coverPrefix n 0 (decide (n > 0)) ess) (spEmit cfg c codec compress before cs).2) := by
  have h := pageHeadersAt_spCover cfg c codec compress ess (spEmit cfg c codec compress before cs).2
    (pre ++ (spEmit cfg c codec compress before cs).1) post n hne hn
  rw [List.length_append] at h
  rw [← h, spEmit_append]
  simp only [List.append_assoc]

/-- the decoded headers of the pages of the chunk `spGChunk cfg compress recs c codec ci cs`, in file order -/
def spChunkHdrs (cfg : SWCfg) (compress : Nat → Bytes → Bytes) (recs : List Rec) (c : Col) (codec ci : Nat) (cs : Choices) :
    List PHdr :=
  spEmitHdrs cfg c codec (compress codec) (spSplit recs ci cs).1 (spSplit recs ci cs).2

theorem spGChunk_bytes (cfg : SWCfg) (compress : Nat → Bytes → Bytes) (recs : List Rec) (c : Col) (codec ci : Nat)
    (cs : Choices) :
    (spGChunk cfg compress recs c codec ci cs).bytes =
      (spEmit cfg c codec (compress codec) (spSplit recs ci cs).1 (spSplit recs ci cs).2).1 := rfl

/-- the footer's `ColumnChunk` of the chunk lying at offset `pos`, as `ColumnChunk.Read` decodes it -/
def spChunkMetaAt (cfg : SWCfg) (compress : Nat → Bytes → Bytes) (recs : List Rec) (c : Col) (codec ci : Nat) (cs : Choices)
    (pos : Nat) : ChunkMeta :=
  spChunkMeta cfg c codec ((recs.map fun r => r.getD ci []).map List.length).sum
    (((spGChunk cfg compress recs c codec ci cs).bytes.length : Int) +
      spEmitDelta cfg c codec (compress codec) (spSplit recs ci cs).1 (spSplit recs ci cs).2)
    (spGChunk cfg compress recs c codec ci cs).bytes.length pos

/-- the footer's `ColumnChunk`s of a row group whose chunks are laid out from `pos` -/
def spChunkMetas (cfg : SWCfg) (compress : Nat → Bytes → Bytes) (recs : List Rec) :
    List (Col × Nat) → Nat → Choices → Nat → List ChunkMeta
  | [], _, _, _ => []
  | (c, codec) :: rest, ci, cs, pos =>
    spChunkMetaAt cfg compress recs c codec ci cs pos ::
      spChunkMetas cfg compress recs rest (ci + 1) (spChunkCs cfg compress recs c codec ci cs)
        (pos + (spGChunk cfg compress recs c codec ci cs).bytes.length)

/-- per chunk of a row group, in file order, the decoded headers of its pages -/
def spChunkHdrss (cfg : SWCfg) (compress : Nat → Bytes → Bytes) (recs : List Rec) :
    List (Col × Nat) → Nat → Choices → List (List PHdr)
  | [], _, _ => []
  | (c, codec) :: rest, ci, cs =>
    spChunkHdrs cfg compress recs c codec ci cs ::
      spChunkHdrss cfg compress recs rest (ci + 1) (spChunkCs cfg compress recs c codec ci cs)

theorem swChunkMetas_none (cfg : SWCfg) (compress : Nat → Bytes → Bytes) (rgi : Nat) (recs : List Rec) :
    ∀ (ccs : List (Col × Nat)) (ci : Nat) (cs : Choices) (pos : Nat),
      swChunkMetas cfg compress none rgi recs ccs ci cs pos = spChunkMetas cfg compress recs ccs ci cs pos
  | [], _, _, _ => rfl
  | (c, codec) :: rest, ci, cs, pos => by
    rw [swChunkMetas, spChunkMetas, swGChunk_off cfg compress (MutOff.none rgi ci), swChunkMetas_none cfg compress rgi recs rest]
    rfl

/-- **One chunk of the spec writer, wherever it lies in the file.**  A chunk of a row group without records
has no bytes and no pages; in any other no page is empty (every record holds at least one entry for the column),
and the `num_values` of its pages add up to the footer's `num_values`. -/
theorem chunkListed_sp (cfg : SWCfg) (compress : Nat → Bytes → Bytes) (recs : List Rec) (c : Col) (codec ci : Nat)
    (cs : Choices) (hne : ∀ r ∈ recs, r.getD ci [] ≠ []) {file : Bytes} {pos : Nat} {post : Bytes}
    (hl : file.drop pos = (spGChunk cfg compress recs c codec ci cs).bytes ++ post) :
    ChunkListed file (spChunkMetaAt cfg compress recs c codec ci cs pos) (spChunkHdrs cfg compress recs c codec ci cs) := by
  obtain ⟨hb, he⟩ := spGPages_bytes cfg c codec (compress codec) (spSplit recs ci cs).1 (spSplit recs ci cs).2
  obtain ⟨hph, hw, _⟩ := spGPages_spec cfg c codec (compress codec) 0 (spSplit recs ci cs).1 (spSplit recs ci cs).2
  rw [spGChunk_bytes, ← hb] at hl
  have := chunkListed_of_pages file _ hw
    (by
      intro p hp
      have hes : p.es ∈ (spSplit recs ci cs).1 := by rw [← he]; exact List.mem_map_of_mem hp
      apply ((splitPages_spec _ cs _ (by omega)).2 p.es hes).2
      intro r hr
      obtain ⟨r', hr', rfl⟩ := List.mem_map.mp hr
      exact hne r' hr')
    hl (spChunkMetaAt cfg compress recs c codec ci cs pos) _ rfl rfl
    (by rw [spGPages_lengths, spSplit_numValues]) (by rw [hb]; rfl)
  rwa [hph] at this

theorem chunksListed_sp (cfg : SWCfg) (compress : Nat → Bytes → Bytes) (recs : List Rec) (file : Bytes) :
    ∀ (ccs : List (Col × Nat)) (ci : Nat) (cs : Choices) (pos : Nat) (post : Bytes),
      (∀ i, ci ≤ i → i < ci + ccs.length → ∀ r ∈ recs, r.getD i [] ≠ []) →
      file.drop pos = gBytes (spChunks cfg compress recs ccs ci cs).1 ++ post →
      Forall2 (ChunkListed file) (spChunkMetas cfg compress recs ccs ci cs pos) (spChunkHdrss cfg compress recs ccs ci cs)
  | [], ci, cs, pos, post, _, _ => .nil
  | (c, codec) :: rest, ci, cs, pos, post, h, hl => by
    rw [spChunks, gBytes_cons, List.append_assoc] at hl
    exact .cons (chunkListed_sp cfg compress recs c codec ci cs (h ci (by omega) (by simp)) hl)
      (chunksListed_sp cfg compress recs file rest (ci + 1) _ _ post
        (fun i h1 h2 => h i (by omega) (by simp only [List.length_cons]; omega)) (drop_add_of_drop_eq hl))

/-- the footer's `RowGroup`s as decoded, the row groups laid out from `pos` -/
def spRGMetas (cfg : SWCfg) (compress : Nat → Bytes → Bytes) : List (List Rec) → Choices → Nat → List RGMeta
  | [], _, _ => []
  | recs :: rest, cs, pos =>
    { columns := spChunkMetas cfg compress recs (cfg.cols.zip cfg.codecs) 0 cs pos,
      totalByteSize := ((gBytes (spChunks cfg compress recs (cfg.cols.zip cfg.codecs) 0 cs).1).length : Nat),
      numRows := (recs.length : Nat) } ::
    spRGMetas cfg compress rest (spChunks cfg compress recs (cfg.cols.zip cfg.codecs) 0 cs).2
      (pos + (gBytes (spChunks cfg compress recs (cfg.cols.zip cfg.codecs) 0 cs).1).length)

/-- per chunk of the file, in file order (row group by row group, column by column), the decoded headers
of the chunk's pages -/
def spFileHdrss (cfg : SWCfg) (compress : Nat → Bytes → Bytes) : List (List Rec) → Choices → List (List PHdr)
  | [], _ => []
  | recs :: rest, cs =>
    spChunkHdrss cfg compress recs (cfg.cols.zip cfg.codecs) 0 cs ++
      spFileHdrss cfg compress rest (spChunks cfg compress recs (cfg.cols.zip cfg.codecs) 0 cs).2

/-- the decoded header of every page the writer emits, in file order -/
def spFileHdrs (cfg : SWCfg) (compress : Nat → Bytes → Bytes) (rowGroups : List (List Rec)) (cs : Choices) : List PHdr :=
  (spFileHdrss cfg compress rowGroups cs).flatten

theorem swGroups_rgm_none (cfg : SWCfg) (compress : Nat → Bytes → Bytes) :
    ∀ (rowGroups : List (List Rec)) (rgi : Nat) (cs : Choices) (pos : Nat),
      (swGroups cfg compress none rowGroups rgi cs pos).map (·.rgm) = spRGMetas cfg compress rowGroups cs pos
  | [], _, _, _ => rfl
  | recs :: rest, rgi, cs, pos => by
    rw [swGroups, List.map_cons, swGroups_rgm_none cfg compress rest, spRGMetas]
    simp only [swChunkMetas_none, swChunks_off cfg compress _ _ _ _ (fun i _ _ => MutOff.none rgi i)]

theorem groupsListed_sp (cfg : SWCfg) (compress : Nat → Bytes → Bytes) (file : Bytes) :
    ∀ (rowGroups : List (List Rec)) (rgi : Nat) (cs : Choices) (pos : Nat) (post : Bytes),
      (∀ rg ∈ rowGroups, ∀ r ∈ rg, ∀ i, i < (cfg.cols.zip cfg.codecs).length → r.getD i [] ≠ []) →
      file.drop pos = dataOf (swGroups cfg compress none rowGroups rgi cs pos) ++ post →
      Forall2 (ChunkListed file) ((spRGMetas cfg compress rowGroups cs pos).flatMap (·.columns)) (spFileHdrss cfg compress rowGroups cs)
  | [], _, _, _, _, _, _ => .nil
  | recs :: rest, rgi, cs, pos, post, h, hl => by
    rw [swGroups, dataOf_cons, swChunks_off cfg compress _ _ _ _ (fun i _ _ => MutOff.none rgi i), List.append_assoc] at hl
    simp only [spRGMetas, spFileHdrss, List.flatMap_cons]
    exact forall2_append
      (chunksListed_sp cfg compress recs file _ 0 cs pos _ (fun i _ h2 r hr => h recs List.mem_cons_self r hr i (by omega)) hl)
      (groupsListed_sp cfg compress file rest (rgi + 1) _ _ post (fun rg hrg => h rg (List.mem_cons_of_mem _ hrg))
        (drop_add_of_drop_eq hl))

/-- the footer of the file `specWrite cfg compress none cs rowGroups`, as `FileMetaData.Read` decodes it
(`sd`: the decoded schema elements) -/
def spFMD (cfg : SWCfg) (compress : Nat → Bytes → Bytes) (cs : Choices) (rowGroups : List (List Rec)) (sd : List SElemD) : FMD :=
  { version := 1, schema := sd, numRows := ((rowGroups.map List.length).sum : Nat),
    rowGroups := spRGMetas cfg compress rowGroups cs 4 }

/-- **C16 on the files of the independent writer**, from the one fact about the records that matters here:
every record holds at least one entry for every column. -/
theorem introspection_specWrite_ne (cfg : SWCfg) (compress : Nat → Bytes → Bytes) (cs : Choices) (rowGroups : List (List Rec))
    (hne : ∀ rg ∈ rowGroups, ∀ r ∈ rg, ∀ i, i < cfg.cols.length → r.getD i [] ≠ [])
    (hsize : (specWrite cfg compress none cs rowGroups).length < 2 ^ 32) :
    ∃ sd, (specSchema cfg.cols).mapM decSElem = some sd ∧
      readMetaData (specWrite cfg compress none cs rowGroups) = .ok (spFMD cfg compress cs rowGroups sd) ∧
      pageHeaders (specWrite cfg compress none cs rowGroups) (spFMD cfg compress cs rowGroups sd) =
        .ok (spFileHdrs cfg compress rowGroups cs) ∧
      Forall2 (ChunkListed (specWrite cfg compress none cs rowGroups))
        ((spFMD cfg compress cs rowGroups sd).rowGroups.flatMap (·.columns)) (spFileHdrss cfg compress rowGroups cs) := by
  obtain ⟨sd, hsd, hfr⟩ := specWrite_framed cfg compress none cs rowGroups hsize
  obtain ⟨post, hl⟩ := hfr.drop
  rw [swGroups_rgm_none] at hfr
  have hzip : (cfg.cols.zip cfg.codecs).length ≤ cfg.cols.length := by
    rw [List.length_zip]; exact Nat.min_le_left _ _
  have hlisted := groupsListed_sp cfg compress _ rowGroups 0 cs 4 post (fun rg hrg r hr i hi => hne rg hrg r hr i (by omega)) hl
  exact ⟨sd, hsd, hfr.readMetaData, pageHeaders_listed _ _ _ hlisted, hlisted⟩

/-- **C16 on the files of the independent writer.**  For every choice stream `cs` (every page split of
every column at record boundaries, independently per column; every run segmentation of every level
stream), any per-column codec ids and compressors, with or without statistics and unknown / optional
thrift fields, any `file_offset` mode, row groups without records anywhere in the file:

* `ReadMetaData` returns the footer the writer wrote (`spFMD`: one row group per input row group with its
  `num_rows`; per column one `ColumnChunk` with the codec, `num_values`, sizes and `data_page_offset` of the
  chunk);
* `PageHeaders` on that footer returns exactly one header per page the writer emitted, in file order
  (`spFileHdrs`), each `spPH rawLen storedLen num_values defLabel repLabel statistics` of its page
  (`spPageHdr`; the level-encoding labels are RLE = 3, or — for the levels a column does not have, when
  `cfg.mrLabels` — BIT_PACKED = 4, as parquet-mr writes them: `SWCfg.defLabel`, `SWCfg.repLabel`);
* per `ColumnChunk` of the footer (`ChunkListed`): a chunk without bytes has no pages and is skipped; for
  any other, `PageHeadersAtOffset` at its `data_page_offset` returns the headers of exactly the chunk's pages
  when asked for the chunk's `num_values`, and the first of them when asked for 0.

`hrecs`: every record holds, per column, the entries of one record (`RecColOK`; only the fact that there is
at least one is used);  `hsize`: the file is smaller than 4 GiB. -/
theorem introspection_specWrite (cfg : SWCfg) (compress : Nat → Bytes → Bytes) (cs : Choices) (rowGroups : List (List Rec))
    (hrecs : ∀ rg ∈ rowGroups, ∀ r ∈ rg, ∀ x ∈ cfg.cols.zipIdx, RecColOK x.1 (r.getD x.2 []))
    (hsize : (specWrite cfg compress none cs rowGroups).length < 2 ^ 32) :
    ∃ fmd sd, readMetaData (specWrite cfg compress none cs rowGroups) = .ok fmd ∧
      ((specSchema cfg.cols).mapM decSElem = some sd ∧ fmd = spFMD cfg compress cs rowGroups sd) ∧
      pageHeaders (specWrite cfg compress none cs rowGroups) fmd = .ok (spFileHdrs cfg compress rowGroups cs) ∧
      Forall2 (ChunkListed (specWrite cfg compress none cs rowGroups))
        (fmd.rowGroups.flatMap (·.columns)) (spFileHdrss cfg compress rowGroups cs) := by
  obtain ⟨sd, h1, h2, h3, h4⟩ := introspection_specWrite_ne cfg compress cs rowGroups (by
    intro rg hrg r hr i hi
    have hx : (cfg.cols[i], i) ∈ cfg.cols.zipIdx := by
      rw [List.mem_zipIdx_iff_getElem?]
      simp [hi]
    obtain ⟨e, tl, h, _⟩ := (hrecs rg hrg r hr _ hx).start
    simp only at h
    rw [h]
    simp) hsize
  exact ⟨_, sd, h2, ⟨h1, rfl⟩, h3, h4⟩

/-! ## reading the right-hand sides -/

theorem spRGMetas_length (cfg : SWCfg) (compress : Nat → Bytes → Bytes) :
    ∀ (rowGroups : List (List Rec)) (cs : Choices) (pos : Nat), (spRGMetas cfg compress rowGroups cs pos).length = rowGroups.length
  | [], _, _ => rfl
  | _ :: rest, _, _ => by simp [spRGMetas, spRGMetas_length cfg compress rest]

theorem spRGMetas_numRows (cfg : SWCfg) (compress : Nat → Bytes → Bytes) :
    ∀ (rowGroups : List (List Rec)) (cs : Choices) (pos : Nat),
      (spRGMetas cfg compress rowGroups cs pos).map (·.numRows) = rowGroups.map fun rg => ((rg.length : Nat) : Int)
  | [], _, _ => rfl
  | _ :: rest, _, _ => by simp [spRGMetas, spRGMetas_numRows cfg compress rest]

theorem spChunkMetas_length (cfg : SWCfg) (compress : Nat → Bytes → Bytes) (recs : List Rec) :
    ∀ (ccs : List (Col × Nat)) (ci : Nat) (cs : Choices) (pos : Nat), (spChunkMetas cfg compress recs ccs ci cs pos).length = ccs.length
  | [], _, _, _ => rfl
  | (_, _) :: rest, _, _, _ => by simp [spChunkMetas, spChunkMetas_length cfg compress recs rest]

theorem spRGMetas_columns_length (cfg : SWCfg) (compress : Nat → Bytes → Bytes) (hcodecs : cfg.codecs.length = cfg.cols.length) :
    ∀ (rowGroups : List (List Rec)) (cs : Choices) (pos : Nat),
      ∀ rg ∈ spRGMetas cfg compress rowGroups cs pos, rg.columns.length = cfg.cols.length
  | [], _, _, rg, h => by simp [spRGMetas] at h
  | recs :: rest, cs, pos, rg, h => by
    simp only [spRGMetas, List.mem_cons] at h
    rcases h with rfl | h
    · simp only [spChunkMetas_length, List.length_zip, hcodecs, Nat.min_self]
    · exact spRGMetas_columns_length cfg compress hcodecs rest _ _ rg h

theorem spChunkMetaAt_md (cfg : SWCfg) (compress : Nat → Bytes → Bytes) (recs : List Rec) (c : Col) (codec ci : Nat)
    (cs : Choices) (pos : Nat) :
    ∃ m, (spChunkMetaAt cfg compress recs c codec ci cs pos).md = some m ∧ m.ty = c.ty.phys ∧
      m.path = c.path.map strBytes ∧ m.codec = (codec : Nat) ∧
      m.numValues = (((recs.flatMap (·.getD ci [])).length : Nat) : Int) ∧
      m.totalCompressed = (((spGChunk cfg compress recs c codec ci cs).bytes.length : Nat) : Int) ∧
      m.dataPageOffset = ((pos : Nat) : Int) := by
  refine ⟨_, rfl, rfl, rfl, rfl, ?_, rfl, rfl⟩
  simp only [List.flatMap_def, List.length_flatten]

theorem hdrFacts_spPageHdr (cfg : SWCfg) (c : Col) (codec : Nat) (compress : Bytes → Bytes) (cs : Choices) (es : PageEntries) :
    (spPageHdr cfg c codec compress cs es).dph =
      some (((es.length : Nat) : Int), 0, ((cfg.defLabel c : Nat) : Int), ((cfg.repLabel c : Nat) : Int), spStatsOpt cfg c es) ∧
    (spPageHdr cfg c codec compress cs es).uncompressed = (((spRaw cfg c cs es).length : Nat) : Int) ∧
    (spPageHdr cfg c codec compress cs es).compressed = (((spPage cfg c codec compress cs es).2.length : Nat) : Int) :=
  ⟨rfl, rfl, rfl⟩

theorem spEmitHdrs_numValues (cfg : SWCfg) (c : Col) (codec : Nat) (compress : Bytes → Bytes) :
    ∀ (ess : List PageEntries) (cs : Choices),
      (spEmitHdrs cfg c codec compress ess cs).map (fun h => h.dph.map (·.1)) = ess.map fun es => some ((es.length : Nat) : Int)
  | [], _ => rfl
  | p :: ps, cs => by
    simp only [spEmitHdrs, List.map_cons, spEmitHdrs_numValues cfg c codec compress ps]
    rfl

/-- **`PageHeadersAtOffset` from the offsets the footer gives** (the per-chunk statement, by membership):
every `ColumnChunk` the footer of a spec-writer file lists has its pages' headers `hs` among `spFileHdrss`;
a chunk with `total_compressed_size = 0` has none, for any other the call at the chunk's `data_page_offset`
returns `hs` for the chunk's `num_values` and `[hs.head]` for 0. -/
theorem pageHeadersAt_specWrite (cfg : SWCfg) (compress : Nat → Bytes → Bytes) (cs : Choices) (rowGroups : List (List Rec))
    (hrecs : ∀ rg ∈ rowGroups, ∀ r ∈ rg, ∀ x ∈ cfg.cols.zipIdx, RecColOK x.1 (r.getD x.2 []))
    (hsize : (specWrite cfg compress none cs rowGroups).length < 2 ^ 32) (fmd : FMD)
    (hfmd : readMetaData (specWrite cfg compress none cs rowGroups) = .ok fmd) :
    ∀ ch ∈ fmd.rowGroups.flatMap (·.columns), ∃ hs ∈ spFileHdrss cfg compress rowGroups cs, ∃ m, ch.md = some m ∧
      (m.totalCompressed = 0 → hs = []) ∧
      (m.totalCompressed ≠ 0 →
        pageHeadersAt (specWrite cfg compress none cs rowGroups) m.dataPageOffset m.numValues = .ok hs ∧
        ∃ h tl, hs = h :: tl ∧ pageHeadersAt (specWrite cfg compress none cs rowGroups) m.dataPageOffset 0 = .ok [h]) := by
  obtain ⟨fmd', sd, h1, _, _, h4⟩ := introspection_specWrite cfg compress cs rowGroups hrecs hsize
  rw [hfmd] at h1
  cases h1
  intro ch hch
  obtain ⟨hs, hhs, m, hm, h⟩ := h4.of_mem_left ch hch
  exact ⟨hs, hhs, m, hm, fun h0 => h.elim (·.2) fun h' => absurd h0 h'.1, fun hn => h.elim (fun h' => absurd h'.1 hn) (·.2)⟩

/-! ## Non-vacuity: two columns (codec ids 1 and 2), statistics and unknown fields on, three row groups — the
second without records.  The "compressors" prepend two bytes: no decompressor is needed to list headers. -/
section NonVacuity

private def fiCols : List Col :=
  [{ path := ["a"], reps := [.req], ty := .i32 }, { path := ["b"], reps := [.rpt], ty := .i32 }]
private def fiCfg : SWCfg := { cols := fiCols, codecs := [1, 2], withStats := true, withExtras := true, padv := 3 }
/-- record `k`: `a = k`, `b = [k, k + 256]` for even `k` and `[]` for odd `k` -/
private def fiRec (k : Nat) : Rec :=
  [[{ rep := 0, dl := 0, val := some [k, 0, 0, 0] }],
   if k % 2 = 0 then [{ rep := 0, dl := 1, val := some [k, 0, 0, 0] }, { rep := 1, dl := 1, val := some [k, 1, 0, 0] }]
   else [{ rep := 0, dl := 0, val := none }]]
private def fiGroups : List (List Rec) := [[fiRec 1, fiRec 2, fiRec 3], [], [fiRec 4]]
private def fiCs : Choices := [1, 0, 1, 1, 0, 2, 1, 5, 3, 0, 0, 1, 7, 2, 8, 1]
private def fiComp : Nat → Bytes → Bytes := fun k b => k :: k :: b
/-- `num_values`, uncompressed size, stored size -/
private def fiFacts (h : PHdr) : Option Int × Int × Int := (h.dph.map (·.1), h.uncompressed, h.compressed)

private theorem fi_recs : ∀ rg ∈ fiGroups, ∀ r ∈ rg, ∀ x ∈ fiCfg.cols.zipIdx, RecColOK x.1 (r.getD x.2 []) := by decide

/-- whatever is evaluated of the file itself, in two declarations (the `Decidable` instance of all of it in one exceeds
the default instance size), so that the kernel writes the file twice, not six times: its size with what `ReadMetaData`
and `PageHeaders` return; `PageHeadersAtOffset` at the first chunk (offset 4) asked for its 3 values, for 2, for none -/
private theorem fi_eval : (specWrite fiCfg fiComp none fiCs fiGroups).length < 2 ^ 32 ∧
    (match readMetaData (specWrite fiCfg fiComp none fiCs fiGroups) with
    | .ok fmd => (match pageHeaders (specWrite fiCfg fiComp none fiCs fiGroups) fmd with
      | .ok hs => some (fmd.numRows, fmd.rowGroups.map (·.numRows), hs.map fiFacts)
      | .error _ => none)
    | .error _ => none) =
    some (4, [3, 0, 1],
      [(some 2, 8, 10), (some 1, 4, 6), (some 3, 22, 24), (some 1, 12, 14), (some 1, 4, 6), (some 2, 24, 26)]) := by
  decide +kernel

private theorem fi_evalAt :
    (match pageHeadersAt (specWrite fiCfg fiComp none fiCs fiGroups) 4 3 with
    | .ok hs => some (hs.map fiFacts) | .error _ => none) = some [(some 2, 8, 10), (some 1, 4, 6)] ∧
    (match pageHeadersAt (specWrite fiCfg fiComp none fiCs fiGroups) 4 2 with
    | .ok hs => some (hs.map fiFacts) | .error _ => none) = some [(some 2, 8, 10)] ∧
    (match pageHeadersAt (specWrite fiCfg fiComp none fiCs fiGroups) 4 0 with
    | .ok hs => some (hs.map fiFacts) | .error _ => none) = some [(some 2, 8, 10)] := by
  decide +kernel

/-- the theorem applied — all hypotheses discharged: the footer reports 4 rows in row groups of 3, 0 and 1
rows, and `PageHeaders` lists the six pages in file order: column `a`'s pages of 2 and 1 values and column
`b`'s of 3 and 1 (a different split per column), nothing for the row group without records, then one page
per column — each with the uncompressed size and the (two bytes larger) stored size of its page. -/
example : ∃ fmd hs, readMetaData (specWrite fiCfg fiComp none fiCs fiGroups) = .ok fmd ∧
    fmd.numRows = 4 ∧ fmd.rowGroups.map (·.numRows) = [3, 0, 1] ∧
    pageHeaders (specWrite fiCfg fiComp none fiCs fiGroups) fmd = .ok hs ∧
    hs.map fiFacts = [(some 2, 8, 10), (some 1, 4, 6), (some 3, 22, 24), (some 1, 12, 14), (some 1, 4, 6), (some 2, 24, 26)] := by
  obtain ⟨fmd, sd, h1, ⟨_, h2⟩, h3, _⟩ := introspection_specWrite fiCfg fiComp fiCs fiGroups fi_recs fi_eval.1
  refine ⟨fmd, _, h1, ?_, ?_, h3, ?_⟩
  · rw [h2]; rfl
  · rw [h2]; simp only [spFMD, spRGMetas_numRows]; rfl
  · decide +kernel

/-- the per-chunk listing: six `ColumnChunk`s, the two of the row group without records without pages -/
example : (spFileHdrss fiCfg fiComp fiGroups fiCs).map (·.map fiFacts) =
    [[(some 2, 8, 10), (some 1, 4, 6)], [(some 3, 22, 24), (some 1, 12, 14)], [], [], [(some 1, 4, 6)], [(some 2, 24, 26)]] := by
  decide +kernel

/-- the same by kernel evaluation of the writer model and the models of the calls alone (not through the
theorem): `ReadMetaData`, `PageHeaders`; `PageHeadersAtOffset` at the first chunk (offset 4) asked for its 3
values, for 2 of them, for none -/
example : (match readMetaData (specWrite fiCfg fiComp none fiCs fiGroups) with
    | .ok fmd => (match pageHeaders (specWrite fiCfg fiComp none fiCs fiGroups) fmd with
      | .ok hs => some (fmd.numRows, fmd.rowGroups.map (·.numRows), hs.map fiFacts)
      | .error _ => none)
    | .error _ => none) =
    some (4, [3, 0, 1],
      [(some 2, 8, 10), (some 1, 4, 6), (some 3, 22, 24), (some 1, 12, 14), (some 1, 4, 6), (some 2, 24, 26)]) :=
  fi_eval.2
example : (match pageHeadersAt (specWrite fiCfg fiComp none fiCs fiGroups) 4 3 with
    | .ok hs => some (hs.map fiFacts) | .error _ => none) = some [(some 2, 8, 10), (some 1, 4, 6)] := fi_evalAt.1
example : (match pageHeadersAt (specWrite fiCfg fiComp none fiCs fiGroups) 4 2 with
    | .ok hs => some (hs.map fiFacts) | .error _ => none) = some [(some 2, 8, 10)] := fi_evalAt.2.1
example : (match pageHeadersAt (specWrite fiCfg fiComp none fiCs fiGroups) 4 0 with
    | .ok hs => some (hs.map fiFacts) | .error _ => none) = some [(some 2, 8, 10)] := fi_evalAt.2.2
/-- a file with nothing but row groups without records: no headers -/
example : (match readMetaData (specWrite fiCfg fiComp none fiCs [[], []]) with
    | .ok fmd => (match pageHeaders (specWrite fiCfg fiComp none fiCs [[], []]) fmd with
      | .ok hs => some (fmd.rowGroups.length, hs.length)
      | .error _ => none)
    | .error _ => none) = some (2, 0) := by
  decide +kernel

/-! ### parquet-mr style labels: a required, an optional and a repeated column, `mrLabels := true` -/

private def fiMrCols : List Col :=
  [{ path := ["a"], reps := [.req], ty := .i32 }, { path := ["b"], reps := [.opt], ty := .i32 },
   { path := ["c"], reps := [.rpt], ty := .i32 }]
private def fiMrCfg : SWCfg :=
  { cols := fiMrCols, codecs := [0, 1, 2], withStats := true, withExtras := true, padv := 3, mrLabels := true }
/-- record `k`: `a = k`; `b = k` for even `k`, null for odd `k`; `c = [k, k + 256]` for even `k`, `[]` for odd `k` -/
private def fiMrRec (k : Nat) : Rec :=
  [[{ rep := 0, dl := 0, val := some [k, 0, 0, 0] }],
   if k % 2 = 0 then [{ rep := 0, dl := 1, val := some [k, 0, 0, 0] }] else [{ rep := 0, dl := 0, val := none }],
   if k % 2 = 0 then [{ rep := 0, dl := 1, val := some [k, 0, 0, 0] }, { rep := 1, dl := 1, val := some [k, 1, 0, 0] }]
   else [{ rep := 0, dl := 0, val := none }]]
private def fiMrGroups : List (List Rec) := [[fiMrRec 1, fiMrRec 2], [fiMrRec 4]]
/-- `num_values` and the three encoding ids: values, definition levels, repetition levels -/
private def fiEncs (h : PHdr) : Option (Int × Int × Int × Int) := h.dph.map fun d => (d.1, d.2.1, d.2.2.1, d.2.2.2.1)

private theorem fiMr_recs : ∀ rg ∈ fiMrGroups, ∀ r ∈ rg, ∀ x ∈ fiMrCfg.cols.zipIdx, RecColOK x.1 (r.getD x.2 []) := by
  decide

/-- **the theorem applied to a file with parquet-mr style labels**: `PageHeaders` lists, per page, the labels as
they stand in the file — BIT_PACKED (4) for both level encodings of the required column `a`, for the
repetition-level encoding of the optional column `b`, RLE (3) throughout for the repeated column `c` -/
example : ∃ fmd hs, readMetaData (specWrite fiMrCfg fiComp none fiCs fiMrGroups) = .ok fmd ∧
    fmd.numRows = 3 ∧ fmd.rowGroups.map (·.numRows) = [2, 1] ∧
    pageHeaders (specWrite fiMrCfg fiComp none fiCs fiMrGroups) fmd = .ok hs ∧
    hs.map fiEncs = (spFileHdrs fiMrCfg fiComp fiMrGroups fiCs).map fiEncs ∧
    (spFileHdrss fiMrCfg fiComp fiMrGroups fiCs).map (·.map fiEncs) =
      [[some (2, 0, 4, 4)], [some (1, 0, 3, 4), some (1, 0, 3, 4)], [some (3, 0, 3, 3)],
       [some (1, 0, 4, 4)], [some (1, 0, 3, 4)], [some (2, 0, 3, 3)]] := by
  obtain ⟨fmd, sd, h1, ⟨_, h2⟩, h3, _⟩ := introspection_specWrite fiMrCfg fiComp fiCs fiMrGroups fiMr_recs (by decide +kernel)
  refine ⟨fmd, _, h1, ?_, ?_, h3, rfl, ?_⟩
  · rw [h2]; rfl
  · rw [h2]; simp only [spFMD, spRGMetas_numRows]; rfl
  · decide +kernel

/-- the same by kernel evaluation of the writer model and the models of the calls alone -/
example : (match readMetaData (specWrite fiMrCfg fiComp none fiCs fiMrGroups) with
    | .ok fmd => (match pageHeaders (specWrite fiMrCfg fiComp none fiCs fiMrGroups) fmd with
      | .ok hs => some (hs.map fiEncs)
      | .error _ => none)
    | .error _ => none) =
    some [some (2, 0, 4, 4), some (1, 0, 3, 4), some (1, 0, 3, 4), some (3, 0, 3, 3),
          some (1, 0, 4, 4), some (1, 0, 3, 4), some (2, 0, 3, 3)] := by
  decide +kernel

end NonVacuity

end PQ
