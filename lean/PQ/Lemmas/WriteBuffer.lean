import PQ.Model.Bytes
/-!
# `writeBuffer` of `internal/rle/buf.go`

```go
type writeBuffer struct { d []byte; i int }
func newWriteBuffer(size int) *writeBuffer { return &writeBuffer{d: make([]byte, size)} }
func (w *writeBuffer) size() int       { return w.i }
func (w *writeBuffer) bytes() []byte   { return w.d[:w.i] }
func (w *writeBuffer) write(dat []byte) (int, error) { return w.writeAt(dat, w.i) }
func (w *writeBuffer) writeAt(dat []byte, off int) (int, error) {
	if len(dat)+off > w.i { w.i = len(dat) + off }
	if off == len(w.d) { w.d = append(w.d, dat...); return len(dat), nil }
	if off+len(dat) >= len(w.d) {
		nd := make([]byte, int(off)+len(dat)); copy(nd, w.d); w.d = nd
	}
	copy(w.d[int(off):], dat)
	return len(dat), nil
}
```

`d` is the *contents* of the slice `w.d` (its `len`, not its capacity: spare capacity is only ever
reached through `append`, which the list append models exactly).  The theorem `writeAt_abs` shows the
three branches implement "overwrite or extend at `off`" on `bytes()`, which is what `Enc.out` with
`++` and `List.set` assumes.
-/
namespace PQ

structure WriteBuffer where
  d : List Nat
  i : Nat
deriving Repr

namespace WriteBuffer

/-- `newWriteBuffer(size)` -/
def new (size : Nat) : WriteBuffer := { d := List.replicate size 0, i := 0 }

def size (wb : WriteBuffer) : Nat := wb.i

/-- `w.d[:w.i]` (a Go slice expression panics for `i > cap`; `i ≤ len` is the invariant `WF`) -/
def bytes (wb : WriteBuffer) : Bytes := wb.d.take wb.i

/-- Go's builtin `copy(dst, src)`: the contents of `dst` afterwards (`min(len dst, len src)` bytes copied) -/
def goCopy (dst src : Bytes) : Bytes := src.take dst.length ++ dst.drop src.length

/-- `writeAt`, branch for branch -/
def writeAt (wb : WriteBuffer) (dat : Bytes) (off : Nat) : WriteBuffer :=
  let i := if dat.length + off > wb.i then dat.length + off else wb.i
  if off = wb.d.length then { d := wb.d ++ dat, i := i }
  else
    let d := if off + dat.length ≥ wb.d.length then goCopy (List.replicate (off + dat.length) 0) wb.d else wb.d
    { d := d.take off ++ goCopy (d.drop off) dat, i := i }

def write (wb : WriteBuffer) (dat : Bytes) : WriteBuffer := wb.writeAt dat wb.i

/-- the representation invariant: the logical size never exceeds the slice length -/
def WF (wb : WriteBuffer) : Prop := wb.i ≤ wb.d.length

/-- overwrite-or-extend `bs` with `dat` at offset `off ≤ bs.length` -/
def overwrite (bs dat : Bytes) (off : Nat) : Bytes := bs.take off ++ dat ++ bs.drop (off + dat.length)

theorem new_wf (size : Nat) : (new size).WF := Nat.zero_le _

theorem new_bytes (size : Nat) : (new size).bytes = [] := by simp [new, bytes]

theorem overwrite_length (l dat : Bytes) {off : Nat} (ho : off ≤ l.length) :
    (overwrite l dat off).length = max l.length (off + dat.length) := by
  rw [overwrite, List.length_append, List.length_append, List.length_take, List.length_drop, Nat.min_eq_left ho,
    Nat.add_comm, Nat.sub_add_eq_max]

/-- the first `i` bytes after a write at `off ≤ i` are a write into the first `i` bytes -/
theorem take_overwrite (l dat : Bytes) {off i : Nat} (ho : off ≤ i) (hi : i ≤ l.length) :
    (overwrite l dat off).take (max i (off + dat.length)) = overwrite (l.take i) dat off := by
  have hlen : (l.take off ++ dat).length = off + dat.length := by
    rw [List.length_append, List.length_take, Nat.min_eq_left (Nat.le_trans ho hi)]
  rw [overwrite, overwrite, List.take_take, Nat.min_eq_left ho, List.drop_take, List.take_append,
    List.take_of_length_le (hlen ▸ Nat.le_max_right _ _), hlen, ← Nat.sub_eq_max_sub]

/-- `copy(d[off:], dat)` when `d` is long enough -/
theorem goCopy_overwrite (d dat : Bytes) {off : Nat} (h : off + dat.length ≤ d.length) :
    d.take off ++ goCopy (d.drop off) dat = overwrite d dat off := by
  rw [goCopy, List.take_of_length_le (l := dat) (by rw [List.length_drop]; omega), List.drop_drop, overwrite,
    List.append_assoc]

/-- the three branches of `writeAt` are one `overwrite` of a slice `d` that agrees with `w.d` on the first
`w.i` bytes -/
theorem writeAt_eq (wb : WriteBuffer) (dat : Bytes) (off : Nat) (hwf : wb.WF) :
    ∃ d, wb.i ≤ d.length ∧ d.take wb.i = wb.bytes ∧
      wb.writeAt dat off = { d := overwrite d dat off, i := max wb.i (off + dat.length) } := by
  have hi : (if dat.length + off > wb.i then dat.length + off else wb.i) = max wb.i (off + dat.length) := by
    split <;> omega
  unfold WF at hwf
  rw [writeAt, hi]
  split
  · -- `off == len(w.d)`: append
    rename_i h
    refine ⟨wb.d, hwf, rfl, ?_⟩
    rw [overwrite, h, List.take_length, List.drop_eq_nil_of_le (Nat.le_add_right _ _), List.append_nil]
  · split
    · -- the write reaches the end of `w.d`, which is first copied into a fresh slice of the new length
      rename_i h
      have hd : goCopy (List.replicate (off + dat.length) 0) wb.d
          = wb.d ++ List.replicate (off + dat.length - wb.d.length) 0 := by
        rw [goCopy, List.length_replicate, List.take_of_length_le h, List.drop_replicate]
      refine ⟨wb.d ++ List.replicate (off + dat.length - wb.d.length) 0, by rw [List.length_append]; omega,
        List.take_append_of_le_length hwf, ?_⟩
      dsimp only
      rw [hd, goCopy_overwrite _ _ (by rw [List.length_append, List.length_replicate]; omega)]
    · -- in place
      refine ⟨wb.d, hwf, rfl, ?_⟩
      dsimp only
      rw [goCopy_overwrite _ _ (by omega)]

theorem writeAt_abs (wb : WriteBuffer) (dat : Bytes) (off : Nat) (hwf : wb.WF) (hoff : off ≤ wb.i) :
    (wb.writeAt dat off).bytes = overwrite wb.bytes dat off ∧ (wb.writeAt dat off).WF
      ∧ (wb.writeAt dat off).size = max wb.size (off + dat.length) := by
  obtain ⟨d, hd, ht, he⟩ := writeAt_eq wb dat off hwf
  rw [he]
  refine ⟨?_, ?_, rfl⟩
  · rw [← ht]; exact take_overwrite d dat hoff hd
  · show max wb.i (off + dat.length) ≤ (overwrite d dat off).length
    rw [overwrite_length d dat (Nat.le_trans hoff hd)]
    omega

theorem bytes_length {wb : WriteBuffer} (hwf : wb.WF) : wb.bytes.length = wb.i := by
  rw [bytes, List.length_take, Nat.min_eq_left hwf]

end WriteBuffer
end PQ
