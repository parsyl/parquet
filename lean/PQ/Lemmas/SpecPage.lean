import PQ.Lemmas.Segment
import PQ.Lemmas.PageRT
/-!
# One page of the independent spec writer

`specPageBytes` (PQ/Model/SpecWriter.lean) in parts: the run segmentations the choices pick for the two level
streams, the uncompressed payload, what is stored, the header (with arbitrary encoding ids: `muHdr`).  Payload,
stored length and the choices left are the same under every mutation; `readLevels` recovers the levels from the
payload whatever the segmentation (`spRaw_levels`).
-/
namespace PQ
open PQ.Thrift

/-- repetition-level runs of the page and the choices left after them -/
def spRepSeg (cfg : SWCfg) (c : Col) (cs : Choices) (es : PageEntries) : List Run × Choices :=
  if c.maxRep > 0 then segment (cfg.padv % 2^(bitsLen c.maxRep)) (es.length + 1) cs (es.map (·.rep)) else ([], cs)

/-- definition-level runs of the page and the choices left after them -/
def spDefSeg (cfg : SWCfg) (c : Col) (cs : Choices) (es : PageEntries) : List Run × Choices :=
  if c.isRequired then ([], (spRepSeg cfg c cs es).2)
  else segment (cfg.padv % 2^(bitsLen c.maxDef)) (es.length + 1) (spRepSeg cfg c cs es).2 (es.map (·.dl))

/-- the uncompressed payload of the page: repetition levels, definition levels, PLAIN values -/
def spRaw (cfg : SWCfg) (c : Col) (cs : Choices) (es : PageEntries) : Bytes :=
  (if c.maxRep > 0 then levelSection (bitsLen c.maxRep) (spRepSeg cfg c cs es).1 else []) ++
  (if c.isRequired then [] else levelSection (bitsLen c.maxDef) (spDefSeg cfg c cs es).1) ++
  plainValues c.ty (nonNull es)

/-- the payload as stored: as it is under codec 0, compressed otherwise -/
def spComp (codec : Nat) (compress : Bytes → Bytes) (raw : Bytes) : Bytes := if codec = 0 then raw else compress raw

def spStats (cfg : SWCfg) (c : Col) (es : PageEntries) : List (Nat × TVal) :=
  if cfg.withStats then [(5, statsT (cfg.pageStatsResult c es))] else []

def spExtra (cfg : SWCfg) : List (Nat × TVal) := if cfg.withExtras then extraField else []

/-- the labels the (un-mutated) data page header gives the two level encodings: RLE (3), or — in the parquet-mr
style `mrLabels` — BIT_PACKED (4) for levels the column does not have -/
def SWCfg.defLabel (cfg : SWCfg) (c : Col) : Nat := if cfg.mrLabels ∧ c.isRequired then 4 else 3

def SWCfg.repLabel (cfg : SWCfg) (c : Col) : Nat := if cfg.mrLabels ∧ c.maxRep = 0 then 4 else 3

theorem SWCfg.defLabel_of_not_required (cfg : SWCfg) (c : Col) (h : c.isRequired = false) : cfg.defLabel c = 3 := by
  unfold SWCfg.defLabel
  rw [if_neg (by rw [h]; exact fun h' => Bool.noConfusion h'.2)]

theorem SWCfg.repLabel_of_repeated (cfg : SWCfg) (c : Col) (h : c.maxRep > 0) : cfg.repLabel c = 3 := by
  unfold SWCfg.repLabel
  rw [if_neg (fun h' => by omega)]

theorem SWCfg.defLabel_of_plain (cfg : SWCfg) (c : Col) (h : cfg.mrLabels = false) : cfg.defLabel c = 3 := by
  unfold SWCfg.defLabel
  rw [if_neg (by rw [h]; exact fun h' => Bool.noConfusion h'.1)]

theorem SWCfg.repLabel_of_plain (cfg : SWCfg) (c : Col) (h : cfg.mrLabels = false) : cfg.repLabel c = 3 := by
  unfold SWCfg.repLabel
  rw [if_neg (by rw [h]; exact fun h' => Bool.noConfusion h'.1)]

/-- the data page header of the (un-mutated) page holding `es` -/
def spDph (cfg : SWCfg) (c : Col) (es : PageEntries) : TVal :=
  .struct ([(1, .int 5 es.length), (2, .int 5 (0 : Nat)), (3, .int 5 (cfg.defLabel c)), (4, .int 5 (cfg.repLabel c))] ++ spStats cfg c es ++ spExtra cfg)

/-- its page header, for a payload of `rawLen` bytes stored in `compLen` -/
def spHdr (cfg : SWCfg) (c : Col) (es : PageEntries) (rawLen compLen : Nat) : TVal :=
  .struct ([(1, .int 5 0), (2, .int 5 rawLen), (3, .int 5 compLen), (5, spDph cfg c es)] ++ spExtra cfg)

theorem specPageBytes_none (cfg : SWCfg) (c : Col) (codec : Nat) (compress : Bytes → Bytes) (cs : Choices)
    (es : PageEntries) :
    specPageBytes cfg c codec compress .none cs es =
      ((spHdr cfg c es (spRaw cfg c cs es).length (spComp codec compress (spRaw cfg c cs es)).length).enc ++
          spComp codec compress (spRaw cfg c cs es),
       spRaw cfg c cs es, (spComp codec compress (spRaw cfg c cs es)).length, (spDefSeg cfg c cs es).2) := rfl

theorem specPageBytes_snd (cfg : SWCfg) (c : Col) (codec : Nat) (compress : Bytes → Bytes) (m : Mutation) (cs : Choices)
    (es : PageEntries) :
    (specPageBytes cfg c codec compress m cs es).2 =
      (spRaw cfg c cs es, (spComp codec compress (spRaw cfg c cs es)).length, (spDefSeg cfg c cs es).2) := by
  cases m <;> rfl

theorem statsT_slack (r : Option Nat × Option Bytes × Option Bytes) : (statsT r).slack = 1 := by
  rw [statsT_eq, TVal.slack, statsFields_slack]

/-- the data page header, and the page header, with arbitrary encoding ids: `spHdr cfg c es u z` is
`muHdr cfg c es u z 0 (cfg.defLabel c) (cfg.repLabel c)` -/
def muDph (cfg : SWCfg) (c : Col) (es : PageEntries) (ve de re : Nat) : TVal :=
  .struct ([(1, .int 5 es.length), (2, .int 5 (ve : Nat)), (3, .int 5 (de : Nat)), (4, .int 5 (re : Nat))] ++ spStats cfg c es ++ spExtra cfg)

def muHdr (cfg : SWCfg) (c : Col) (es : PageEntries) (u z ve de re : Nat) : TVal :=
  .struct ([(1, .int 5 0), (2, .int 5 u), (3, .int 5 z), (5, muDph cfg c es ve de re)] ++ spExtra cfg)

theorem muHdr_ok (cfg : SWCfg) (c : Col) (es : PageEntries) (u z ve de re : Nat) : TopOK (muHdr cfg c es u z ve de re) := by
  have : (statsT (cfg.pageStatsResult c es)).WF := by rw [statsT_eq]; simpa [TVal.WF] using statsFields_wf _
  refine ⟨rfl, ?_⟩
  cases hs : cfg.withStats <;> cases he : cfg.withExtras <;>
    simp [muHdr, muDph, spStats, spExtra, extraField, hs, he, TVal.WF, WFFields, tI32, tI64, this, TVal.slack, slackFields,
      statsT_slack]

theorem spHdr_ok (cfg : SWCfg) (c : Col) (es : PageEntries) (u z : Nat) : TopOK (spHdr cfg c es u z) := muHdr_ok ..

def spRepLen (cfg : SWCfg) (c : Col) (cs : Choices) (es : PageEntries) : Nat :=
  if c.maxRep > 0 then (levelSection (bitsLen c.maxRep) (spRepSeg cfg c cs es).1).length else 0

def spDefLen (cfg : SWCfg) (c : Col) (cs : Choices) (es : PageEntries) : Nat :=
  (levelSection (bitsLen c.maxDef) (spDefSeg cfg c cs es).1).length

theorem spRepLen_zero (cfg : SWCfg) (c : Col) (cs : Choices) (es : PageEntries) (h : ¬ c.maxRep > 0) :
    spRepLen cfg c cs es = 0 := if_neg h

/-- **The level sections of the spec writer's payload, as `OptionalField.DoRead` reads them**, for every choice
stream and padding value: the entries' levels followed by fewer than 8 padding values, and the sizes of the
sections; what follows them is the PLAIN value section. -/
theorem spRaw_levels (cfg : SWCfg) (c : Col) (cs : Choices) (es : PageEntries) (hopt : c.isRequired = false)
    (hwr : c.maxRep > 0 → 1 ≤ bitsLen c.maxRep ∧ bitsLen c.maxRep ≤ 4)
    (hwd : 1 ≤ bitsLen c.maxDef ∧ bitsLen c.maxDef ≤ 4)
    (hx : ∀ e ∈ es, (c.maxRep > 0 → e.rep ≤ c.maxRep) ∧ e.dl ≤ c.maxDef) (hlen : es.length + 8 ≤ 2 ^ 28) :
    (∀ _ : c.maxRep > 0, ∃ p1, p1 < 8 ∧
      readLevelsAt (bitsLen c.maxRep) (spRaw cfg c cs es) 0 =
        .ok (es.map (·.rep) ++ List.replicate p1 (cfg.padv % 2 ^ bitsLen c.maxRep), spRepLen cfg c cs es)) ∧
    (∃ p2, p2 < 8 ∧
      readLevelsAt (bitsLen c.maxDef) (spRaw cfg c cs es) (spRepLen cfg c cs es) =
        .ok (es.map (·.dl) ++ List.replicate p2 (cfg.padv % 2 ^ bitsLen c.maxDef), spDefLen cfg c cs es)) ∧
    (spRaw cfg c cs es).drop (spRepLen cfg c cs es + spDefLen cfg c cs es) = plainValues c.ty (nonNull es) ∧
    spRepLen cfg c cs es + spDefLen cfg c cs es ≤ (spRaw cfg c cs es).length := by
  have hreq' : ¬ c.isRequired = true := by simp [hopt]
  have hlv : ∀ (f : Entry Bytes → Nat) (m : Nat), (∀ e ∈ es, f e ≤ m) → ∀ x ∈ es.map f, x < 2 ^ bitsLen m := by
    intro f m h x hx'
    obtain ⟨e, he, rfl⟩ := List.mem_map.mp hx'
    exact Nat.lt_of_le_of_lt (h e he) (lt_two_pow_bitsLen _)
  -- the payload is `R ++ D ++ values`, `R` the repetition-level section (empty for a flat column)
  have hraw : spRaw cfg c cs es = (if c.maxRep > 0 then levelSection (bitsLen c.maxRep) (spRepSeg cfg c cs es).1 else []) ++
      levelSection (bitsLen c.maxDef) (segment (cfg.padv % 2 ^ bitsLen c.maxDef) (es.length + 1) (spRepSeg cfg c cs es).2
        (es.map (·.dl))).1 ++ plainValues c.ty (nonNull es) := by
    rw [spRaw, spDefSeg, if_neg hreq', if_neg hreq']
  have hR : spRepLen cfg c cs es = (if c.maxRep > 0 then levelSection (bitsLen c.maxRep) (spRepSeg cfg c cs es).1 else []).length := by
    unfold spRepLen
    split <;> rfl
  obtain ⟨p2, hp2, h2⟩ := readLevelsAt_segment (bitsLen c.maxDef) hwd (cfg.padv % 2 ^ bitsLen c.maxDef)
    (Nat.mod_lt _ (Nat.two_pow_pos _)) (es.length + 1) (spRepSeg cfg c cs es).2 (es.map (·.dl)) (hlv _ _ fun e he => (hx e he).2)
    (by simp) (by simpa using hlen)
    (if c.maxRep > 0 then levelSection (bitsLen c.maxRep) (spRepSeg cfg c cs es).1 else []) (plainValues c.ty (nonNull es))
  rw [hraw, hR, spDefLen, spDefSeg, if_neg hreq']
  refine ⟨fun hrep => ?_, ⟨p2, hp2, h2⟩, by rw [← List.length_append, List.drop_left],
    by simp only [List.length_append]; omega⟩
  have hseg : spRepSeg cfg c cs es = segment (cfg.padv % 2 ^ bitsLen c.maxRep) (es.length + 1) cs (es.map (·.rep)) := by
    rw [spRepSeg, if_pos hrep]
  rw [if_pos hrep, hseg, List.append_assoc]
  exact readLevelsAt_segment (bitsLen c.maxRep) (hwr hrep) _ (Nat.mod_lt _ (Nat.two_pow_pos _)) _ cs _
    (hlv _ _ fun e he => (hx e he).1 hrep) (by simp) (by simpa using hlen) [] _

theorem maxRep_zero_of_required (c : Col) (h : c.isRequired = true) : c.maxRep = 0 :=
  Nat.le_zero.1 (maxDef_of_all_req ((all_req_iff _).1 h) ▸ c.maxRep_le_maxDef)

theorem spRaw_required (cfg : SWCfg) (c : Col) (cs : Choices) (es : PageEntries) (hreq : c.isRequired = true) :
    spRaw cfg c cs es = plainValues c.ty (nonNull es) := by
  unfold spRaw
  rw [if_neg (by rw [maxRep_zero_of_required c hreq]; omega), if_pos hreq]
  rfl

end PQ
