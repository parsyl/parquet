import PQ.Lemmas.ChunkRT
import PQ.Props.C06
import PQ.Props.C03
/-!
# The whole file: what the writer emits is a valid Parquet file holding exactly the written batches

The file of a `Close`d history is `Framed`: magic ‖ the row groups of `histPrgs` ‖ a footer that decodes to
`fileMetas` ‖ its length ‖ magic (`runWriter_framed_prgs`).  `parseFile` on a framed file comes down to its row-group
walk (`parseFile_layout`), which `parseFile_go_at` runs when every batch is `BatchOK` (`batch_rg_ok`);
`batchOK_of_records` reduces `BatchOK` to conditions on the added records.
-/
namespace PQ.Thrift
open PQ

/-! ## Nesting depth

`dep` counts one per struct level and one per non-empty list level along the deepest path.  It bounds `TVal.slack`
(Lemmas/Thrift.lean), and the fuel bounds of the file theorems are stated with `slack`: nothing outside this section
uses `dep`. -/

mutual
def TVal.dep : TVal → Nat
  | .bool _ => 0
  | .int _ _ => 0
  | .bin _ => 0
  | .list _ xs => depList xs
  | .struct fs => 1 + depFields fs
def depList : List TVal → Nat
  | [] => 0
  | x :: xs => max (1 + x.dep) (depList xs)
def depFields : List (Nat × TVal) → Nat
  | [] => 0
  | (_, v) :: fs => max v.dep (depFields fs)
end

mutual
theorem slack_le_dep : (v : TVal) → v.slack ≤ v.dep
  | .bool _ => Nat.le_refl _
  | .int _ _ => Nat.le_refl _
  | .bin _ => Nat.le_refl _
  | .list _ xs => by simp only [TVal.slack, TVal.dep]; exact slackList_le_dep xs
  | .struct fs => by have := slackFields_le_dep fs; simp only [TVal.slack, TVal.dep]; omega
theorem slackList_le_dep : (xs : List TVal) → slackList xs ≤ depList xs
  | [] => Nat.le_refl _
  | x :: xs => by
    have := slack_le_dep x; have := slackList_le_dep xs; simp only [slackList, depList]; omega
theorem slackFields_le_dep : (fs : List (Nat × TVal)) → slackFields fs ≤ depFields fs
  | [] => Nat.le_refl _
  | (_, v) :: fs => by
    have := slack_le_dep v; have := slackFields_le_dep fs; simp only [slackFields, depFields]; omega
end

theorem needList_le : (xs : List TVal) → needList xs ≤ (encList xs).length + depList xs :=
  fun xs => Nat.le_trans (needList_le_slack xs) (Nat.add_le_add_left (slackList_le_dep xs) _)

theorem WFList_of (ety : Nat) : ∀ xs : List TVal, (∀ x ∈ xs, x.ecode = ety ∧ x.WF) → WFList ety xs
  | [], _ => trivial
  | x :: xs, h => ⟨(h x List.mem_cons_self).1, (h x List.mem_cons_self).2,
      WFList_of ety xs fun y hy => h y (List.mem_cons_of_mem _ hy)⟩

theorem structList_ok {xs : List TVal} (h : ∀ x ∈ xs, ElemOK x) : WFList tStruct xs ∧ slackList xs ≤ 2 :=
  ⟨WFList_of _ _ fun x hx => ⟨(h x hx).1, (h x hx).2.1⟩, slackList_le _ _ fun x hx => (h x hx).2.2⟩

end PQ.Thrift

namespace PQ
open PQ.Thrift

theorem selem_wf (e : SElem) : ElemOK e.toT := by
  obtain ⟨name, ty, rep, nc, conv⟩ := e
  cases ty <;> cases rep <;> cases nc <;> cases conv <;>
    simp [ElemOK, SElem.toT, TVal.ecode, TVal.code, TVal.WF, WFFields, TVal.slack, slackFields, tI32, tI64]

theorem pathT_wf (l : List String) :
    WFList tBin (l.map fun n => TVal.bin (strBytes n)) ∧ slackList (l.map fun n => TVal.bin (strBytes n)) ≤ 1 :=
  ⟨WFList_of _ _ (List.forall_mem_map.mpr fun _ _ => ⟨rfl, trivial⟩),
    slackList_le _ 0 (List.forall_mem_map.mpr fun _ _ => Nat.le_refl 0)⟩

theorem chunkT_wf (c : Col) (cid : Nat) (ch : Chunk) (pos : Nat) : ElemOK (chunkT c cid ch pos) := by
  obtain ⟨h1, h2⟩ := pathT_wf c.path
  refine ⟨rfl, ?_, ?_⟩
  · simp [chunkT, TVal.WF, WFFields, WFList, okCode, TVal.ecode, TVal.code, tI32, tI64, tBin, tTrue, tList, tStruct] at h1 ⊢
    exact h1
  · simp [chunkT, TVal.slack, slackFields, slackList]
    omega

theorem rgT_wf (chs : List TVal) (blen rows : Nat) (h : ∀ t ∈ chs, ElemOK t) : ElemOK (rgT chs blen rows) := by
  obtain ⟨hw, hd⟩ := structList_ok h
  refine ⟨rfl, ?_, ?_⟩
  · simp [rgT, TVal.WF, WFFields, okCode, tI32, tI64, tBin, tTrue, tList, tStruct] at hw ⊢
    exact hw
  · simp [rgT, TVal.slack, slackFields]
    omega

theorem rgTs_wf (cid : Nat) : ∀ (L : List (Nat × List (Col × Chunk × Bytes))) (pos : Nat),
    ∀ t ∈ rgTs cid L pos, ElemOK t
  | [], _, _, ht => nomatch ht
  | (rows, its) :: rest, pos, t, ht => by
    rcases List.mem_cons.mp ht with rfl | ht
    · exact rgT_wf _ _ _ fun x hx => by obtain ⟨y, _, rfl⟩ := List.mem_map.mp hx; exact chunkT_wf ..
    · exact rgTs_wf cid rest _ t ht

/-- a `FileMetaData` struct: version 1, schema, number of rows, row groups, then whatever optional fields -/
def footerOf (schema : List TVal) (numRows : Nat) (rgs : List TVal) (extra : List (Nat × TVal)) : TVal :=
  .struct ([(1, .int 5 1), (2, .list 12 schema), (3, .int 6 numRows), (4, .list 12 rgs)] ++ extra)

theorem footerOf_wf (schema : List TVal) (numRows : Nat) (rgs : List TVal) (extra : List (Nat × TVal))
    (hs : ∀ t ∈ schema, ElemOK t) (hr : ∀ t ∈ rgs, ElemOK t) (hx : WFFields 4 extra ∧ slackFields extra = 0) :
    TopOK (footerOf schema numRows rgs extra) := by
  obtain ⟨h1, hs⟩ := structList_ok hs
  obtain ⟨h2, hg⟩ := structList_ok hr
  refine ⟨rfl, ?_, ?_⟩
  · simp [footerOf, TVal.WF, WFFields, okCode, tI32, tI64, tBin, tTrue, tList, tStruct] at h1 h2 ⊢
    exact ⟨h1, h2, hx.1⟩
  · simp [footerOf, TVal.slack, slackFields, hx.2]
    omega

/-- `FileMetaData.Read` finds the four fields it asks for in front of the optional ones -/
theorem decFMD_footerOf (schema : List TVal) (numRows : Nat) (rgs : List TVal) (extra : List (Nat × TVal)) (sd : List SElemD)
    (rms : List RGMeta) (hsd : schema.mapM decSElem = some sd) (hrg : rgs.mapM decRG = some rms) :
    decFMD (footerOf schema numRows rgs extra) = some { version := 1, schema := sd, numRows := numRows, rowGroups := rms } := by
  have : decFMD (footerOf schema numRows rgs extra) = (schema.mapM decSElem).bind fun sd =>
      (rgs.mapM decRG).bind fun rms => some ⟨1, sd, numRows, rms⟩ := rfl
  rw [this, hsd, hrg]
  rfl

deriving instance ReflBEq for Leaf

/-- `file` is `PAR1 ‖ data ‖ footer ‖ footer length ‖ PAR1`; the footer is the encoding of a thrift struct that
the decoder returns with the fuel every entry point gives it (its length + 2), and `FileMetaData.Read` makes
`f` of it -/
def Framed (data : Bytes) (f : FMD) (file : Bytes) : Prop :=
  ∃ v : TVal, TopOK v ∧ v.enc.length < 2 ^ 32 ∧ decFMD v = some f ∧
    file = par1 ++ data ++ (v.enc ++ le32 v.enc.length ++ par1)

theorem Framed.drop {data : Bytes} {f : FMD} {file : Bytes} (h : Framed data f file) : ∃ rest, file.drop 4 = data ++ rest := by
  obtain ⟨v, _, _, _, hfile⟩ := h
  exact ⟨_, drop_of_eq_append (a := par1) (hfile.trans (List.append_assoc ..)) rfl⟩

theorem parseFile_layout (dc : Decomp) (cols : List Col) (maxRecs : Nat) {file data : Bytes} {f : FMD}
    (hfr : Framed data f file) (hl : schemaLeaves f.schema = .ok (cols.map expectedLeaf))
    (rgs : List SpecRG) (hgo : parseFile.go dc cols maxRecs file f.rowGroups 4 = .ok (rgs, 4 + data.length))
    (hrows : f.numRows = (((rgs.map (·.numRows)).sum : Nat) : Int)) :
    parseFile dc cols maxRecs file = .ok { numRows := f.numRows.toNat, rowGroups := rgs, fmd := f } := by
  obtain ⟨v, hv, hn, hf, hfile⟩ := hfr
  obtain ⟨hlen, h1, h2, h3, hd⟩ := trailer (m := par1) rfl data v.enc hn hfile
  have hdec := hv.dec (v.enc.length + 2) [] (Nat.le_refl _)
  rw [List.append_nil] at hdec
  have h5 : file.length - 8 - v.enc.length = 4 + data.length := by
    rw [hlen, Nat.add_sub_cancel, Nat.add_sub_cancel]
  have h4 : (file.drop (4 + data.length)).take v.enc.length = v.enc := by
    rw [← h5, Nat.sub_sub, Nat.add_comm 8, hd, List.take_left]
  unfold parseFile
  simp only [bind, Except.bind, pure, Except.pure, h3]
  rw [if_neg (by omega), if_neg (by simp [h1]), if_neg (by simp [h2]), if_neg (by omega)]
  simp only [h4, hdec, hf, hl, BEq.rfl, Bool.not_true, Bool.false_eq_true, if_false, hgo, h5, ne_eq, not_true_eq_false]
  rw [if_neg (fun h => h hrows)]

/-- the entries one record holds for one column: they start a record, and only once -/
def RecEntries (es : PageEntries) : Prop := ∃ e tl, es = e :: tl ∧ e.rep = 0 ∧ ∀ x ∈ tl, x.rep ≠ 0

theorem recordsIn_append (a b : List (Entry Bytes)) : recordsIn (a ++ b) = recordsIn a + recordsIn b := by
  simp [recordsIn, List.filter_append]

theorem recordsIn_recEntries (es : PageEntries) (h : RecEntries es) : recordsIn es = 1 := by
  obtain ⟨e, tl, rfl, h0, htl⟩ := h
  have : tl.filter (fun x => decide (x.rep = 0)) = [] := by
    rw [List.filter_eq_nil_iff]
    intro x hx
    simpa using htl x hx
  simp [recordsIn, h0, this]

theorem recordsIn_flatMap (i : Nat) (rs : List Rec) (h : ∀ r ∈ rs, RecEntries (r.getD i [])) :
    recordsIn (rs.flatMap (·.getD i [])) = rs.length := by
  induction rs with
  | nil => rfl
  | cons r rs ih =>
    rw [List.flatMap_cons, recordsIn_append, recordsIn_recEntries _ (h r List.mem_cons_self),
      ih (fun r' hr' => h r' (List.mem_cons_of_mem _ hr')), List.length_cons]
    omega

theorem head_flatMap (i : Nat) (rs : List Rec) (h : ∀ r ∈ rs, RecEntries (r.getD i [])) :
    ∀ e ∈ (rs.flatMap (·.getD i [])).head?, e.rep = 0 := by
  cases rs with
  | nil => intro e he; simp at he
  | cons r rs =>
    obtain ⟨e0, tl, he0, h0, _⟩ := h r List.mem_cons_self
    intro e he
    rw [List.flatMap_cons, he0] at he
    simp only [List.cons_append, List.head?_cons, Option.mem_def, Option.some.injEq] at he
    rw [← he]; exact h0

/-- per column, the entries of each page of the chain holding batch `b` -/
def batchPItems (cols : List Col) (max : Nat) (b : List Rec) : List PItem :=
  cols.zipIdx.map fun x => (x.1, colEntries (chainOf max cols.length b) x.2)

theorem batchItems_eq (cols : List Col) (max : Nat) (k : Codec) (b : List Rec) :
    batchItems cols max k b = (batchPItems cols max b).map (mkItem k) := by
  unfold batchItems batchPItems
  rw [List.map_map]
  rfl

theorem batchPItems_cols (cols : List Col) (max : Nat) (b : List Rec) :
    (batchPItems cols max b).map (·.1) = cols := by
  unfold batchPItems
  rw [List.map_map]
  exact List.zipIdx_map_fst 0 cols

/-- what the file theorem asks of one batch -/
structure BatchOK (dc : Decomp) (k : Codec) (cols : List Col) (max : Nat) (b : List Rec) : Prop where
  /-- every record has one entry list per column -/
  width : ∀ r ∈ b, r.length = cols.length
  /-- … which starts the record and does not start another one (what striping produces) -/
  recs : ∀ r ∈ b, ∀ x ∈ cols.zipIdx, RecEntries (r.getD x.2 [])
  /-- every page (≤ `max` consecutive records) of every column is well formed and survives the codec -/
  pages : ∀ ck ∈ chunksOf max b, ∀ x ∈ cols.zipIdx,
    WFPage x.1 (ck.flatMap (·.getD x.2 [])) ∧ CodecOK dc k (k.id : Int) (pagePayload x.1 (ck.flatMap (·.getD x.2 [])))

theorem chunk_mem {max : Nat} (hmax : 1 ≤ max) (b : List Rec) (ck : List Rec) (hck : ck ∈ chunksOf max b) :
    ∀ r ∈ ck, r ∈ b := by
  intro r hr
  rw [← chunksOf_flatten hmax b]
  exact List.mem_flatten.mpr ⟨ck, hck, hr⟩

theorem batchPItems_eq (cols : List Col) {max : Nat} (hmax : 1 ≤ max) (b : List Rec) (hb : b ≠ [])
    (hw : ∀ r ∈ b, r.length = cols.length) :
    batchPItems cols max b =
      cols.zipIdx.map fun x => (x.1, (chunksOf max b).map fun ck => ck.flatMap (·.getD x.2 [])) :=
  List.map_congr_left fun x hx => by
    rw [colEntries_chain hmax cols.length x.2 (List.mem_zipIdx' (x := x.1) hx).1 b hb hw]

/-- what holds of the entries of every chunk of records, for every column, holds of every page of the row group -/
theorem forall_batchPages (cols : List Col) {max : Nat} (hmax : 1 ≤ max) (b : List Rec) (hb : b ≠ [])
    (hw : ∀ r ∈ b, r.length = cols.length) (P : Col → PageEntries → Prop)
    (h : ∀ ck ∈ chunksOf max b, ∀ x ∈ cols.zipIdx, P x.1 (ck.flatMap (·.getD x.2 []))) :
    ∀ p ∈ batchPItems cols max b, ∀ es ∈ p.2, P p.1 es := by
  rw [batchPItems_eq cols hmax b hb hw]
  intro p hp es hes
  obtain ⟨x, hx, rfl⟩ := List.mem_map.mp hp
  obtain ⟨ck, hck, rfl⟩ := List.mem_map.mp hes
  exact h ck hck x hx

theorem batch_rg_ok (dc : Decomp) (k : Codec) (cols : List Col) {max : Nat} (hmax : 1 ≤ max) (b : List Rec)
    (hb : b ≠ []) (hok : BatchOK dc k cols max b) :
    (batchPItems cols max b).map (·.1) = cols ∧
    (∀ p ∈ batchPItems cols max b, ∀ es ∈ p.2, PageGood dc k max p.1 es) ∧
    (∀ p ∈ batchPItems cols max b, recordsIn p.2.flatten = b.length) ∧
    (batchPItems cols max b).map (fun p => p.2.flatten) = (List.range cols.length).map fun i => b.flatMap (·.getD i []) := by
  have hflat : ∀ x ∈ cols.zipIdx, (colEntries (chainOf max cols.length b) x.2).flatten = b.flatMap (·.getD x.2 []) :=
    fun x hx => colEntries_flatten hmax cols.length x.2 (List.mem_zipIdx' (x := x.1) hx).1 b hok.width
  refine ⟨batchPItems_cols cols max b, forall_batchPages cols hmax b hb hok.width _ fun ck hck x hx => ?_, ?_, ?_⟩
  · have hr : ∀ r ∈ ck, RecEntries (r.getD x.2 []) := fun r hr => hok.recs r (chunk_mem hmax b ck hck r hr) x hx
    refine ⟨(hok.pages ck hck x hx).1, (hok.pages ck hck x hx).2, ?_, head_flatMap x.2 ck hr⟩
    rw [recordsIn_flatMap x.2 ck hr]
    exact (NF_mem _ (chunksOf_NF hmax b hb) ck hck).2
  · intro p hp
    obtain ⟨x, hx, rfl⟩ := List.mem_map.mp hp
    simp only
    rw [hflat x hx]
    exact recordsIn_flatMap x.2 b (fun r hr => hok.recs r hr x hx)
  · have : (batchPItems cols max b).map (fun p => p.2.flatten) =
        (cols.zipIdx.map Prod.snd).map fun i => b.flatMap (·.getD i []) := by
      rw [batchPItems, List.map_map, List.map_map]
      exact List.map_congr_left hflat
    rw [this, List.zipIdx_map_snd, List.range_eq_range']

/-- the row groups of a history: per non-empty batch, its length and its columns' pages -/
def histPrgs (cols : List Col) (max : Nat) (body : List Op) : List (Nat × List PItem) :=
  (batches body).map fun b => (b.length, batchPItems cols max b)

/-- **The file of a `Close`d history, as its readers see it**: `PQ.C06.offsets_truthful` in the vocabulary of
`Lemmas/ChunkRT.lean`, with row groups that `RowGroup.Read` decodes to `fileMetas … 4`. -/
theorem runWriter_layout (k : Codec) (cols : List Col) (max : Nat) (body : List Op)
    (hmax : 1 ≤ max) (hcols : cols ≠ []) (hbody : ∀ op ∈ body, op.isClose = false)
    (se : List SElem) (hschema : schemaElems cols = some se) :
    ∃ rgs : List TVal,
      fileBytes (runWriter cols max k (body ++ [Op.close])) =
        par1 ++ prgsBytes k (histPrgs cols max body) ++
          ((footerOf (se.map SElem.toT) ((batches body).map List.length).sum rgs []).enc ++
            le32 (footerOf (se.map SElem.toT) ((batches body).map List.length).sum rgs []).enc.length ++ par1) ∧
      (∀ t ∈ rgs, ElemOK t) ∧
      rgs.mapM decRG = some (fileMetas k (histPrgs cols max body) 4) := by
  have hfile := (PQ.C06.offsets_truthful hmax cols hcols k body hbody se hschema).2.2.1
  have hdata : ((batches body).map (batchItems cols max k)).flatMap itemsBytes = prgsBytes k (histPrgs cols max body) := by
    unfold prgsBytes histPrgs pitemsBytes
    rw [List.flatMap_map, List.flatMap_map]
    simp only [batchItems_eq]
  have hrgs : (batches body).map (fun b => (b.length, batchItems cols max k b)) =
      (histPrgs cols max body).map fun g => (g.1, g.2.map (mkItem k)) := by
    unfold histPrgs
    rw [List.map_map]
    simp only [batchItems_eq]
    rfl
  rw [hdata, hrgs] at hfile
  exact ⟨_, hfile, rgTs_wf _ _ _, mapM_decRG_rgTs k _ 4⟩

theorem runWriter_framed_prgs (k : Codec) (cols : List Col) (max : Nat) (body : List Op)
    (hmax : 1 ≤ max) (hcols : cols ≠ []) (hbody : ∀ op ∈ body, op.isClose = false)
    (hsize : (fileBytes (runWriter cols max k (body ++ [Op.close]))).length < 2 ^ 32)
    (se : List SElem) (sd : List SElemD) (hschema : schemaElems cols = some se)
    (hdec : (se.map SElem.toT).mapM decSElem = some sd) :
    Framed (prgsBytes k (histPrgs cols max body))
      { version := 1, schema := sd, numRows := (((batches body).map List.length).sum : Nat),
        rowGroups := fileMetas k (histPrgs cols max body) 4 }
      (fileBytes (runWriter cols max k (body ++ [Op.close]))) := by
  obtain ⟨rgs, hfile, hrwf, hrdec⟩ := runWriter_layout k cols max body hmax hcols hbody se hschema
  have hwf := footerOf_wf (se.map SElem.toT) ((batches body).map List.length).sum rgs []
    (List.forall_mem_map.mpr fun e _ => selem_wf e) hrwf ⟨trivial, rfl⟩
  refine ⟨_, hwf, ?_, decFMD_footerOf _ _ rgs [] sd _ hdec hrdec, hfile⟩
  rw [hfile] at hsize
  simp only [List.length_append] at hsize
  omega

/-- **C02 / C01 / C06, whole file.**  Every `Close`d history of `Add`s and `Write`s whose batches are
`BatchOK` yields a file that the independent specification parser accepts, and the parse result is
completely determined by `batches body`: one row group per non-empty batch, holding exactly the
batch's records' entries, column by column; the footer's row-group metadata is `fileMetas` (truthful
offsets and sizes, see `PQ.C06.offsets_truthful`).

`hsize`: the file is smaller than 4 GiB (the footer length is a 4-byte field).
`hschema`/`hdec`/`hleaves`: the struct's schema is emitted (`schema()` does not panic), decodes, and
lists exactly the struct's columns (proved for field trees in `Lemmas/SchemaTree.lean`). -/
theorem parseFile_runWriter_explicit (dc : Decomp) (k : Codec) (cols : List Col) (max : Nat) (body : List Op)
    (hmax : 1 ≤ max) (hcols : cols ≠ []) (hbody : ∀ op ∈ body, op.isClose = false)
    (hok : ∀ b ∈ batches body, BatchOK dc k cols max b)
    (hsize : (fileBytes (runWriter cols max k (body ++ [Op.close]))).length < 2 ^ 32)
    (se : List SElem) (sd : List SElemD) (hschema : schemaElems cols = some se)
    (hdec : (se.map SElem.toT).mapM decSElem = some sd)
    (hleaves : schemaLeaves sd = .ok (cols.map expectedLeaf)) :
    parseFile dc cols max (fileBytes (runWriter cols max k (body ++ [Op.close]))) =
      .ok { numRows := ((batches body).map List.length).sum,
            rowGroups := (histPrgs cols max body).map (rgSpec k),
            fmd := { version := 1, schema := sd, numRows := (((batches body).map List.length).sum : Nat),
                     rowGroups := fileMetas k (histPrgs cols max body) 4 } } := by
  have hfr := runWriter_framed_prgs k cols max body hmax hcols hbody hsize se sd hschema hdec
  obtain ⟨rest, hd⟩ := hfr.drop
  have hgo := parseFile_go_at dc k max cols (fileBytes (runWriter cols max k (body ++ [Op.close])))
    (histPrgs cols max body) 4 rest
    (by
      intro g hg
      unfold histPrgs at hg
      obtain ⟨b, hb, rfl⟩ := List.mem_map.mp hg
      have := batch_rg_ok dc k cols hmax b (batches_ne_nil body b hb) (hok b hb)
      exact ⟨this.1, this.2.1, this.2.2.1⟩)
    hd
  rw [parseFile_layout dc cols max hfr hleaves _ hgo
    (by rw [histPrgs, List.map_map, List.map_map]; rfl)]
  simp

/-- the statement in the form asked for: there is a parse result with the batches' shape and contents -/
theorem parseFile_runWriter (dc : Decomp) (k : Codec) (cols : List Col) (max : Nat) (body : List Op)
    (hmax : 1 ≤ max) (hcols : cols ≠ []) (hbody : ∀ op ∈ body, op.isClose = false)
    (hok : ∀ b ∈ batches body, BatchOK dc k cols max b)
    (hsize : (fileBytes (runWriter cols max k (body ++ [Op.close]))).length < 2 ^ 32)
    (se : List SElem) (sd : List SElemD) (hschema : schemaElems cols = some se)
    (hdec : (se.map SElem.toT).mapM decSElem = some sd)
    (hleaves : schemaLeaves sd = .ok (cols.map expectedLeaf)) :
    ∃ f, parseFile dc cols max (fileBytes (runWriter cols max k (body ++ [Op.close]))) = .ok f ∧
      f.numRows = ((batches body).map List.length).sum ∧
      f.fmd.numRows = (((batches body).map List.length).sum : Nat) ∧
      f.rowGroups.map (·.numRows) = (batches body).map List.length ∧
      f.rowGroups.map (fun rg => rg.chunks.map (·.entries)) =
        (batches body).map (fun b => (List.range cols.length).map fun i => b.flatMap (·.getD i [])) := by
  refine ⟨_, parseFile_runWriter_explicit dc k cols max body hmax hcols hbody hok hsize se sd hschema hdec hleaves,
    rfl, rfl, ?_, ?_⟩
  · simp only [histPrgs, List.map_map]
    rfl
  · simp only [histPrgs, List.map_map]
    apply List.map_congr_left
    intro b hb
    have := (batch_rg_ok dc k cols hmax b (batches_ne_nil body b hb) (hok b hb)).2.2.2
    simp only [Function.comp, rgSpec, List.map_map, chunkSpec]
    exact this

/-- what one record must hold for column `c`: it starts the record and no other, levels within the
column's maxima, a value exactly at the maximum definition level, values well-typed -/
structure RecColOK (c : Col) (es : PageEntries) : Prop where
  start : RecEntries es
  entries : ∀ e ∈ es, if c.isRequired then e.rep = 0 ∧ e.dl = 0 ∧ e.val.isSome
    else e.dl ≤ c.maxDef ∧ e.rep ≤ c.maxRep ∧ (e.val.isSome ↔ e.dl = c.maxDef)
  vals : ∀ v ∈ nonNull es, WTVal c.ty v

instance (es : PageEntries) : Decidable (RecEntries es) :=
  match es with
  | [] => isFalse (fun ⟨_, _, h, _⟩ => by cases h)
  | e :: tl => decidable_of_iff (e.rep = 0 ∧ ∀ x ∈ tl, x.rep ≠ 0)
      ⟨fun h => ⟨e, tl, rfl, h⟩, fun ⟨_, _, h, h'⟩ => by cases h; exact h'⟩

/-- so that the hypothesis "every record is well-formed for every column" of the file theorems is
discharged by evaluation for a concrete list of records -/
instance (c : Col) (es : PageEntries) : Decidable (RecColOK c es) :=
  decidable_of_iff (RecEntries es ∧
    (∀ e ∈ es, if c.isRequired then e.rep = 0 ∧ e.dl = 0 ∧ e.val.isSome
      else e.dl ≤ c.maxDef ∧ e.rep ≤ c.maxRep ∧ (e.val.isSome ↔ e.dl = c.maxDef)) ∧
    ∀ v ∈ nonNull es, WTVal c.ty v)
    ⟨fun h => ⟨h.1, h.2.1, h.2.2⟩, fun h => ⟨h.1, h.2, h.3⟩⟩

theorem mem_nonNull {es : PageEntries} {v : Bytes} : v ∈ nonNull es ↔ ∃ e ∈ es, e.val = some v := List.mem_filterMap

/-- a page all of whose entries come from records that are `RecColOK` -/
theorem wfPage_of_recs (c : Col) (p : PageEntries) (recs : List PageEntries) (hrec : ∀ r ∈ recs, RecColOK c r)
    (hmem : ∀ e ∈ p, ∃ r ∈ recs, e ∈ r) (hlen : p.length + 8 ≤ 2 ^ 30) (hmd : c.maxDef ≤ 15) : WFPage c p := by
  refine ⟨fun e he => ?_, fun v hv => ?_, hlen, hmd⟩
  · obtain ⟨r, hr, her⟩ := hmem e he
    exact (hrec r hr).entries e her
  · obtain ⟨e, he, hev⟩ := mem_nonNull.mp hv
    obtain ⟨r, hr, her⟩ := hmem e he
    exact (hrec r hr).vals v (mem_nonNull.mpr ⟨e, her, hev⟩)

theorem length_flatMap_le_of_mem {β : Type} (f : Rec → List β) :
    ∀ (cs : List (List Rec)) (ck : List Rec), ck ∈ cs → (ck.flatMap f).length ≤ (cs.flatten.flatMap f).length
  | [], _, h => by simp at h
  | c :: cs, ck, h => by
    rw [List.flatten_cons, List.flatMap_append, List.length_append]
    cases List.mem_cons.mp h with
    | inl e => subst e; omega
    | inr e => have := length_flatMap_le_of_mem f cs ck e; omega

/-- **Record-level sufficient condition.**  If every record of the batch has one entry list per column
satisfying `RecColOK`, definition levels fit in 4 bits, no column of the batch holds `2^30 - 8` entries
or more, and the codec round-trips, the batch is `BatchOK`. -/
theorem batchOK_of_records (dc : Decomp) (k : Codec) (cols : List Col) {max : Nat} (hmax : 1 ≤ max) (b : List Rec)
    (hw : ∀ r ∈ b, r.length = cols.length)
    (hr : ∀ r ∈ b, ∀ x ∈ cols.zipIdx, RecColOK x.1 (r.getD x.2 []))
    (hdef : ∀ c ∈ cols, c.maxDef ≤ 15)
    (hlen : ∀ x ∈ cols.zipIdx, (b.flatMap (·.getD x.2 [])).length + 8 ≤ 2 ^ 30)
    (hcodec : ∀ raw, CodecOK dc k (k.id : Int) raw) : BatchOK dc k cols max b := by
  refine ⟨hw, fun r hrb x hx => (hr r hrb x hx).start, ?_⟩
  intro ck hck x hx
  refine ⟨wfPage_of_recs x.1 _ (ck.map (·.getD x.2 []))
    (List.forall_mem_map.mpr fun r hrc => hr r (chunk_mem hmax b ck hck r hrc) x hx)
    (fun e he => by obtain ⟨r, hrc, her⟩ := List.mem_flatMap.mp he; exact ⟨_, List.mem_map_of_mem hrc, her⟩) ?_
    (hdef _ (List.fst_mem_of_mem_zipIdx hx)), hcodec _⟩
  have h1 := length_flatMap_le_of_mem (fun r : Rec => r.getD x.2 []) (chunksOf max b) ck hck
  rw [chunksOf_flatten hmax] at h1
  have h2 := hlen x hx
  omega

/-- **Striping produces `RecColOK` entries** (C03): the entries a record holds for column `c` are the
Dremel striping of its value for that column. -/
theorem recColOK_stripe (c : Col) (v : Proj Bytes c.reps)
    (hv : ∀ x ∈ nonNull (stripeTop c.reps v), WTVal c.ty x) : RecColOK c (stripeTop c.reps v) := by
  refine ⟨?_, ?_, hv⟩
  · obtain ⟨e, tl, h1, h2, h3⟩ := PQ.C03.first_rep_zero c.reps v
    exact ⟨e, tl, h1, h2, fun x hx => by have := h3 x hx; omega⟩
  · intro e he
    by_cases hreq : c.isRequired = true
    · rw [if_pos hreq]
      obtain ⟨x, hx⟩ := PQ.C03.required_only c.reps ((all_req_iff _).1 hreq) v
      rw [hx, List.mem_singleton] at he
      subst he
      exact ⟨rfl, rfl, rfl⟩
    · rw [if_neg hreq]
      exact PQ.C03.levels_bounded c.reps v e he

theorem mem_batchesAux_added (ops : List Op) (pend : List Rec) (b : List Rec) (hb : b ∈ batchesAux pend ops) (r : Rec)
    (hr : r ∈ b) : r ∈ pend ∨ Op.add r ∈ ops := by
  fun_induction batchesAux pend ops with
  | case1 => cases hb
  | case2 pend r' ops ih =>
    rcases ih hb with h | h
    · rcases List.mem_append.mp h with h | h
      · exact .inl h
      · exact .inr (by simp_all)
    · exact .inr (List.mem_cons_of_mem _ h)
  | case3 pend ops he ih => rcases ih hb with h | h <;> simp_all
  | case4 pend ops he ih =>
    rcases List.mem_cons.mp hb with rfl | hb
    · exact .inl hr
    · rcases ih hb with h | h <;> simp_all
  | case5 pend ops ih => rcases ih hb with h | h <;> simp_all

theorem mem_batches_added (body : List Op) (b : List Rec) (hb : b ∈ batches body) (r : Rec) (hr : r ∈ b) :
    Op.add r ∈ body := by
  have := mem_batchesAux_added body [] b hb r hr
  simpa using this

/-- **The whole-file theorem with hypotheses on the added records.**  `hrec`: every `Add`ed record has
one entry list per column satisfying `RecColOK` (which the Dremel striping of a well-typed value does:
`recColOK_stripe`); `hdef`: definition levels fit in 4 bits; `hlen`: no column of a batch holds
`2^30 - 8` entries or more; `hcodec`: the decompressor inverts the codec; `hsize`: the file is smaller
than 4 GiB; `hschema`/`hdec`/`hleaves`: the schema hypotheses (see `parseFile_runWriter_explicit`). -/
theorem parseFile_runWriter_records (dc : Decomp) (k : Codec) (cols : List Col) (max : Nat) (body : List Op)
    (hmax : 1 ≤ max) (hcols : cols ≠ []) (hbody : ∀ op ∈ body, op.isClose = false)
    (hrec : ∀ r, Op.add r ∈ body → r.length = cols.length ∧ ∀ x ∈ cols.zipIdx, RecColOK x.1 (r.getD x.2 []))
    (hdef : ∀ c ∈ cols, c.maxDef ≤ 15)
    (hlen : ∀ b ∈ batches body, ∀ x ∈ cols.zipIdx, (b.flatMap (·.getD x.2 [])).length + 8 ≤ 2 ^ 30)
    (hcodec : ∀ raw, CodecOK dc k (k.id : Int) raw)
    (hsize : (fileBytes (runWriter cols max k (body ++ [Op.close]))).length < 2 ^ 32)
    (se : List SElem) (sd : List SElemD) (hschema : schemaElems cols = some se)
    (hdec : (se.map SElem.toT).mapM decSElem = some sd)
    (hleaves : schemaLeaves sd = .ok (cols.map expectedLeaf)) :
    ∃ f, parseFile dc cols max (fileBytes (runWriter cols max k (body ++ [Op.close]))) = .ok f ∧
      f.numRows = ((batches body).map List.length).sum ∧
      f.fmd.numRows = (((batches body).map List.length).sum : Nat) ∧
      f.rowGroups.map (·.numRows) = (batches body).map List.length ∧
      f.rowGroups.map (fun rg => rg.chunks.map (·.entries)) =
        (batches body).map (fun b => (List.range cols.length).map fun i => b.flatMap (·.getD i [])) := by
  apply parseFile_runWriter dc k cols max body hmax hcols hbody _ hsize se sd hschema hdec hleaves
  intro b hb
  exact batchOK_of_records dc k cols hmax b
    (fun r hr => (hrec r (mem_batches_added body b hb r hr)).1)
    (fun r hr => (hrec r (mem_batches_added body b hb r hr)).2)
    hdef (hlen b hb) hcodec

/-! ## Non-vacuity: two columns, `max = 2`, history add, add, add, write, write, add, close

All hypotheses of `parseFile_runWriter` are discharged for a concrete history (three records in one
batch cut into two pages per column, an empty `Write`, a record pending at `Close`), so the theorem's
conclusion holds outright for it. -/
section NonVacuity

private def fxCols : List Col :=
  [{ path := ["a"], reps := [.req], ty := .i32 }, { path := ["b"], reps := [.opt], ty := .i32 }]
private def fxCodec : Codec := { id := 0, compress := id }
private def fxDc : Decomp := { snappy := fun _ => none, gzip := fun _ => none }
private def fxRec (k : Nat) : Rec :=
  [[{ rep := 0, dl := 0, val := some [k, 0, 0, 0] }], [{ rep := 0, dl := 0, val := none }]]
private def fxBody : List Op :=
  [.add (fxRec 1), .add (fxRec 2), .add (fxRec 3), .write, .write, .add (fxRec 4)]
private def fxSe : List SElem :=
  [{ name := "root", numChildren := some 2 }, { name := "a", ty := some 1, rep := some 0 },
   { name := "b", ty := some 1, rep := some 1 }]
private def fxSd : List SElemD :=
  [([(5, 2)], strBytes "root"), ([(1, 1), (3, 0)], strBytes "a"), ([(1, 1), (3, 1)], strBytes "b")]

private theorem fx_batches : batches fxBody = [[fxRec 1, fxRec 2, fxRec 3]] := by decide

private theorem fx_ok : ∀ b ∈ batches fxBody, BatchOK fxDc fxCodec fxCols 2 b := by
  rw [fx_batches]
  intro b hb
  refine batchOK_of_records fxDc fxCodec fxCols (by decide) b ?_ ?_ (by decide) ?_ fun _ => .inl ⟨rfl, rfl⟩
  all_goals revert b; decide

/-- the theorem applied: the file of this history parses, has one row group of three rows, and column
`a` holds the three values, column `b` three nulls -/
example : ∃ f, parseFile fxDc fxCols 2 (fileBytes (runWriter fxCols 2 fxCodec (fxBody ++ [Op.close]))) = .ok f ∧
    f.numRows = 3 ∧ f.rowGroups.map (·.numRows) = [3] ∧
    f.rowGroups.map (fun rg => rg.chunks.map (·.entries)) =
      [[[⟨0, 0, some [1, 0, 0, 0]⟩, ⟨0, 0, some [2, 0, 0, 0]⟩, ⟨0, 0, some [3, 0, 0, 0]⟩],
        [⟨0, 0, none⟩, ⟨0, 0, none⟩, ⟨0, 0, none⟩]]] := by
  obtain ⟨f, h1, h2, _, h4, h5⟩ := parseFile_runWriter fxDc fxCodec fxCols 2 fxBody (by decide) (by decide) (by decide)
    fx_ok (by decide +kernel) fxSe fxSd (by decide +kernel) (by decide +kernel) (by rfl)
  rw [fx_batches] at h2 h4 h5
  exact ⟨f, h1, h2, h4, h5⟩

end NonVacuity

end PQ
