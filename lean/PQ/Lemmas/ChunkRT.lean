import PQ.Lemmas.PageRT
import PQ.Lemmas.Writer
/-!
# Column chunks and row groups: what the writer lays out is what the specification parser reads

Four nested walks of the validator, each over bytes laid out back to back from a position `pos` of a file
(`file.drop pos = bytes ++ rest`), each returning the entries and the position right after: the pages of a chunk
(`specChunkPages_at`), a chunk with the `ColumnChunk` the footer records for it (`specChunk_at`), the chunks of a
row group (`specRowGroup_at`), the row groups of a file (`parseFile_go_at`).
-/
namespace PQ
open PQ.Thrift

/-- everything the parser checks of one page of column `c` holding `es`, besides its position -/
structure PageGood (dc : Decomp) (k : Codec) (maxRecs : Nat) (c : Col) (es : PageEntries) : Prop where
  wf : WFPage c es
  codec : CodecOK dc k (k.id : Int) (pagePayload c es)
  recs : recordsIn es ≤ maxRecs
  head : ∀ e ∈ es.head?, e.rep = 0

theorem chunkBytes_nil (k : Codec) (c : Col) : chunkBytes k c [] = [] := rfl

theorem chunkBytes_cons (k : Codec) (c : Col) (es : PageEntries) (ess : List PageEntries) :
    chunkBytes k c (es :: ess) = (pageBytes k c es).1 ++ (pageBytes k c es).2 ++ chunkBytes k c ess := by
  simp [chunkBytes, pageWrites]

theorem pageHeader_length_pos (k : Codec) (c : Col) (es : PageEntries) : 1 ≤ (pageBytes k c es).1.length := by
  rw [pageBytes_eq]
  exact enc_length_pos _

theorem chunkBytes_length_ge (k : Codec) (c : Col) (ess : List PageEntries) :
    ess.length ≤ (chunkBytes k c ess).length := by
  induction ess with
  | nil => simp
  | cons es ess ih =>
    have := pageHeader_length_pos k c es
    rw [chunkBytes_cons]
    simp only [List.length_append, List.length_cons]
    omega

theorem specChunkPages_succ (dc : Decomp) (c : Col) (codec : Int) (file : Bytes) (maxRecs fuel pos size size' : Nat)
    (pg : SpecPage) (hpg : specPage dc c codec file pos = .ok pg) (hpos : 1 ≤ pg.headerLen)
    (hsize : size = pg.headerLen + pg.compressedLen + size') (hrecs : recordsIn pg.entries ≤ maxRecs)
    (hhead : ∀ e ∈ pg.entries.head?, e.rep = 0) (tl : List SpecPage)
    (htl : specChunkPages dc c codec file maxRecs fuel (pos + (pg.headerLen + pg.compressedLen)) size' = .ok tl) :
    specChunkPages dc c codec file maxRecs (fuel + 1) pos size = .ok (pg :: tl) := by
  subst hsize
  unfold specChunkPages
  rw [if_neg (by omega)]
  simp only [bind, Except.bind, hpg]
  rw [if_neg (by omega), if_neg (by omega), Nat.add_sub_cancel_left]
  cases he : pg.entries with
  | nil =>
    simp only [pure, Except.pure, htl]
  | cons e es =>
    have : e.rep = 0 := hhead e (by rw [he]; rfl)
    simp only [this, ne_eq, not_true_eq_false, if_false, pure, Except.pure, htl]

theorem specChunkPages_at (dc : Decomp) (k : Codec) (maxRecs : Nat) (c : Col) (file : Bytes) :
    ∀ (ess : List PageEntries) (pos : Nat) (rest : Bytes) (fuel size : Nat), ess.length < fuel →
      size = (chunkBytes k c ess).length → (∀ es ∈ ess, PageGood dc k maxRecs c es) →
      file.drop pos = chunkBytes k c ess ++ rest →
      specChunkPages dc c (k.id : Int) file maxRecs fuel pos size = .ok (ess.map (pageSpec k c))
  | _, _, _, 0, _, hf, _, _, _ => absurd hf (Nat.not_lt_zero _)
  | [], pos, rest, fuel+1, size, _, hs, _, _ => by subst hs; simp [specChunkPages, chunkBytes_nil]
  | es :: ess, pos, rest, fuel+1, size, hf, hs, hg, hd => by
    have hgood := hg es List.mem_cons_self
    rw [chunkBytes_cons] at hs hd
    rw [List.length_append, List.length_append] at hs
    rw [List.append_assoc] at hd
    exact specChunkPages_succ dc c (k.id : Int) file maxRecs fuel pos size _ (pageSpec k c es)
      (specPage_at dc k (k.id : Int) c es hgood.wf hgood.codec file pos _ (hd.trans (List.append_assoc ..)))
      (pageHeader_length_pos k c es) hs hgood.recs hgood.head _
      (specChunkPages_at dc k maxRecs c file ess _ rest fuel _ (Nat.lt_of_succ_lt_succ hf) rfl
        (fun e he => hg e (List.mem_cons_of_mem _ he))
        (List.length_append ▸ drop_add_of_drop_eq hd))

/-- the `ColumnChunk` metadata `chunkT` decodes to -/
def chunkMetaOf (c : Col) (cid : Nat) (ch : Chunk) (pos : Nat) : ChunkMeta :=
  { fileOffset := pos,
    md := some { ty := c.ty.phys, encodings := [0], path := c.path.map strBytes, codec := cid,
                 numValues := ch.numValues, totalUncompressed := ch.totalUncompressed,
                 totalCompressed := ch.totalCompressed, dataPageOffset := pos } }

theorem filterMap_binOf (l : List String) :
    List.filterMap (binOf ∘ fun n => TVal.bin (strBytes n)) l = l.map strBytes := by
  induction l with
  | nil => rfl
  | cons a l ih => simp [binOf, ih]

/-- `ColumnChunk.Read` on what `Footer` wrote -/
theorem decChunk_chunkT (c : Col) (cid : Nat) (ch : Chunk) (pos : Nat) :
    decChunk (chunkT c cid ch pos) = some (chunkMetaOf c cid ch pos) := by
  rw [chunkMetaOf, ← filterMap_binOf, ← List.filterMap_map]
  rfl

/-- what `specChunk` returns for the chunk whose pages hold `ess` -/
def chunkSpec (k : Codec) (c : Col) (ess : List PageEntries) : SpecChunk :=
  { pages := ess.map (pageSpec k c), entries := ess.flatten }

theorem specChunk_at (dc : Decomp) (k : Codec) (maxRecs : Nat) (c : Col) (ess : List PageEntries)
    (file : Bytes) (pos : Nat) (rest : Bytes) (hg : ∀ es ∈ ess, PageGood dc k maxRecs c es)
    (hd : file.drop pos = chunkBytes k c ess ++ rest) :
    specChunk dc c maxRecs file pos (chunkMetaOf c k.id (colChunk k c ess) pos) =
      .ok (chunkSpec k c ess, pos + (chunkBytes k c ess).length) := by
  have hpages := specChunkPages_at dc k maxRecs c file ess pos rest (file.length + 2) _
    (by have := chunkBytes_length_ge k c ess; have := length_le_of_drop_eq hd; omega) rfl hg hd
  have hnv : ((ess.map (pageSpec k c)).map (·.numValues)).sum = (ess.map List.length).sum := by
    rw [List.map_map]; rfl
  have htu : ((ess.map (pageSpec k c)).map fun p => p.headerLen + p.uncompressedLen).sum =
      (ess.map fun es => (pageBytes k c es).1.length + (pagePayload c es).length).sum := by
    rw [List.map_map]; rfl
  unfold specChunk
  simp only [chunkMetaOf, bind, Except.bind, pure, Except.pure, ne_eq, not_true_eq_false, if_false,
    colChunk_totalCompressed, colChunk_numValues, colChunk_totalUncompressed, Int.toNat_natCast]
  rw [if_neg (by omega), if_neg (by simp)]
  simp only [hpages, hnv, htu, not_true_eq_false, if_false, chunkSpec, List.flatMap_map, pageSpec,
    List.flatMap_id']

/-- a column together with the entries of each of its pages -/
abbrev PItem := Col × List PageEntries

/-- the `(column, totals, bytes)` item of `Lemmas/Writer.lean` for a column and its pages -/
def mkItem (k : Codec) (p : PItem) : Col × Chunk × Bytes := (p.1, colChunk k p.1 p.2, chunkBytes k p.1 p.2)

/-- the bytes of one row group: its chunks back to back -/
def pitemsBytes (k : Codec) (pits : List PItem) : Bytes := itemsBytes (pits.map (mkItem k))

theorem pitemsBytes_nil (k : Codec) : pitemsBytes k [] = [] := rfl

theorem pitemsBytes_cons (k : Codec) (p : PItem) (pits : List PItem) :
    pitemsBytes k (p :: pits) = chunkBytes k p.1 p.2 ++ pitemsBytes k pits := by
  simp [pitemsBytes, itemsBytes, mkItem]

/-- the decoded `ColumnChunk`s of one row group laid out from `pos` -/
def rgMetas (k : Codec) : List PItem → Nat → List ChunkMeta
  | [], _ => []
  | p :: rest, pos => chunkMetaOf p.1 k.id (colChunk k p.1 p.2) pos :: rgMetas k rest (pos + (chunkBytes k p.1 p.2).length)

theorem rgMetas_length (k : Codec) : ∀ (pits : List PItem) (pos : Nat), (rgMetas k pits pos).length = pits.length
  | [], _ => rfl
  | _ :: rest, pos => by simp [rgMetas, rgMetas_length k rest]

theorem mapM_decChunk_locs (k : Codec) : ∀ (pits : List PItem) (pos : Nat),
    ((locsFrom (pits.map (mkItem k)) pos).map fun x => chunkT x.col k.id x.chunk x.offset).mapM decChunk =
      some (rgMetas k pits pos)
  | [], _ => rfl
  | p :: rest, pos => by
    have ih := mapM_decChunk_locs k rest (pos + (chunkBytes k p.1 p.2).length)
    simp only [List.map_cons, mkItem, locsFrom, List.mapM_cons, decChunk_chunkT, rgMetas] at ih ⊢
    simp only [ih, bind, Option.bind, pure]

theorem rgMetas_totalCompressed (k : Codec) : ∀ (pits : List PItem) (pos : Nat),
    (((rgMetas k pits pos).filterMap (·.md)).map (·.totalCompressed)).sum = (((pitemsBytes k pits).length : Nat) : Int)
  | [], _ => rfl
  | p :: rest, pos => by
    have ih := rgMetas_totalCompressed k rest (pos + (chunkBytes k p.1 p.2).length)
    simp only [rgMetas, chunkMetaOf, List.filterMap_cons, List.map_cons, List.sum_cons, ih, pitemsBytes_cons,
      List.length_append, colChunk_totalCompressed]
    omega

theorem specRowGroup_go_at (dc : Decomp) (k : Codec) (maxRecs : Nat) (file : Bytes) :
    ∀ (pits : List PItem) (pos : Nat) (rest : Bytes), (∀ p ∈ pits, ∀ es ∈ p.2, PageGood dc k maxRecs p.1 es) →
      file.drop pos = pitemsBytes k pits ++ rest →
      specRowGroup.go dc maxRecs file ((pits.map (·.1)).zip (rgMetas k pits pos)) pos =
        .ok (pits.map (fun p => chunkSpec k p.1 p.2), pos + (pitemsBytes k pits).length)
  | [], pos, rest, _, _ => by
    simp [specRowGroup.go, pitemsBytes_nil, pure, Except.pure]
  | p :: pits, pos, rest, hg, hd => by
    rw [pitemsBytes_cons, List.append_assoc] at hd
    have h1 := specChunk_at dc k maxRecs p.1 p.2 file pos _ (hg p List.mem_cons_self) hd
    have ih := specRowGroup_go_at dc k maxRecs file pits _ rest (fun q hq => hg q (List.mem_cons_of_mem _ hq))
      (drop_add_of_drop_eq hd)
    simp only [List.map_cons, rgMetas, List.zip_cons_cons, specRowGroup.go, bind, Except.bind, h1, ih, pure, Except.pure]
    simp only [pitemsBytes_cons, List.length_append, Nat.add_assoc]

/-- the decoded `RowGroup` of a row group with `rows` rows whose chunks are laid out from `pos` -/
def rgMetaOf (k : Codec) (rows : Nat) (pits : List PItem) (pos : Nat) : RGMeta :=
  { columns := rgMetas k pits pos, totalByteSize := ((pitemsBytes k pits).length : Nat), numRows := rows }

theorem specRowGroup_of_go (dc : Decomp) (cols : List Col) (maxRecs : Nat) (file : Bytes) (pos : Nat) (rg : RGMeta)
    (chunks : List SpecChunk) (pos' : Nat) (hlen : rg.columns.length = cols.length)
    (hgo : specRowGroup.go dc maxRecs file (cols.zip rg.columns) pos = .ok (chunks, pos'))
    (hnr : 0 ≤ rg.numRows) (hrows : ∀ sc ∈ chunks, recordsIn sc.entries = rg.numRows.toNat)
    (htot : rg.totalByteSize = ((rg.columns.filterMap (·.md)).map (·.totalCompressed)).sum) :
    specRowGroup dc cols maxRecs file pos rg = .ok ({ numRows := rg.numRows.toNat, chunks := chunks }, pos') := by
  unfold specRowGroup
  simp only [hlen, ne_eq, not_true_eq_false, if_false, bind, Except.bind, hgo, pure, Except.pure]
  rw [if_neg (by omega), if_neg, if_neg]
  · intro h; exact h.1 htot
  · intro h
    rw [List.any_eq_true] at h
    obtain ⟨sc, hsc, hd⟩ := h
    simp only [decide_eq_true_eq] at hd
    exact hd (hrows sc hsc)

theorem specRowGroup_at (dc : Decomp) (k : Codec) (maxRecs : Nat) (cols : List Col) (rows : Nat)
    (pits : List PItem) (file : Bytes) (pos : Nat) (rest : Bytes) (hcols : pits.map (·.1) = cols)
    (hg : ∀ p ∈ pits, ∀ es ∈ p.2, PageGood dc k maxRecs p.1 es)
    (hrows : ∀ p ∈ pits, recordsIn p.2.flatten = rows) (hd : file.drop pos = pitemsBytes k pits ++ rest) :
    specRowGroup dc cols maxRecs file pos (rgMetaOf k rows pits pos) =
      .ok ({ numRows := rows, chunks := pits.map fun p => chunkSpec k p.1 p.2 }, pos + (pitemsBytes k pits).length) := by
  have hgo := specRowGroup_go_at dc k maxRecs file pits pos rest hg hd
  rw [hcols] at hgo
  have hlen : (rgMetas k pits pos).length = cols.length := by
    rw [rgMetas_length, ← hcols, List.length_map]
  have := specRowGroup_of_go dc cols maxRecs file pos (rgMetaOf k rows pits pos) _ _ hlen hgo (by simp [rgMetaOf])
    (by
      intro sc hsc
      obtain ⟨p, hp, rfl⟩ := List.mem_map.mp hsc
      simp [chunkSpec, rgMetaOf, hrows p hp])
    (by simp only [rgMetaOf, rgMetas_totalCompressed])
  rw [this]
  simp [rgMetaOf]

/-- the bytes of all row groups, back to back -/
def prgsBytes (k : Codec) (prgs : List (Nat × List PItem)) : Bytes := prgs.flatMap fun g => pitemsBytes k g.2

theorem prgsBytes_cons (k : Codec) (g : Nat × List PItem) (prgs : List (Nat × List PItem)) :
    prgsBytes k (g :: prgs) = pitemsBytes k g.2 ++ prgsBytes k prgs := by
  simp [prgsBytes]

/-- the decoded `RowGroup`s of row groups `(rows, chunks)` laid out back to back from `pos` -/
def fileMetas (k : Codec) : List (Nat × List PItem) → Nat → List RGMeta
  | [], _ => []
  | g :: rest, pos => rgMetaOf k g.1 g.2 pos :: fileMetas k rest (pos + (pitemsBytes k g.2).length)

/-- what `specRowGroup` returns for a row group -/
def rgSpec (k : Codec) (g : Nat × List PItem) : SpecRG :=
  { numRows := g.1, chunks := g.2.map fun p => chunkSpec k p.1 p.2 }

theorem parseFile_go_at (dc : Decomp) (k : Codec) (maxRecs : Nat) (cols : List Col) (file : Bytes) :
    ∀ (prgs : List (Nat × List PItem)) (pos : Nat) (rest : Bytes),
      (∀ g ∈ prgs, g.2.map (·.1) = cols ∧ (∀ p ∈ g.2, ∀ es ∈ p.2, PageGood dc k maxRecs p.1 es) ∧
        ∀ p ∈ g.2, recordsIn p.2.flatten = g.1) →
      file.drop pos = prgsBytes k prgs ++ rest →
      parseFile.go dc cols maxRecs file (fileMetas k prgs pos) pos =
        .ok (prgs.map (rgSpec k), pos + (prgsBytes k prgs).length)
  | [], pos, rest, _, _ => by
    simp [parseFile.go, fileMetas, prgsBytes, pure, Except.pure]
  | g :: prgs, pos, rest, h, hd => by
    obtain ⟨hc, hg, hr⟩ := h g List.mem_cons_self
    rw [prgsBytes_cons, List.append_assoc] at hd
    have h1 := specRowGroup_at dc k maxRecs cols g.1 g.2 file pos _ hc hg hr hd
    have ih := parseFile_go_at dc k maxRecs cols file prgs _ rest (fun q hq => h q (List.mem_cons_of_mem _ hq))
      (drop_add_of_drop_eq hd)
    simp only [fileMetas, parseFile.go, bind, Except.bind, h1, ih, pure, Except.pure, List.map_cons, rgSpec]
    simp only [prgsBytes_cons, List.length_append, Nat.add_assoc]

/-- the thrift `RowGroup` of chunks `chs` holding `blen` bytes and `rows` records -/
def rgT (chs : List TVal) (blen rows : Nat) : TVal := .struct [(1, .list 12 chs), (2, .int 6 blen), (3, .int 6 rows)]

theorem decRG_rgT (chs : List TVal) (blen rows : Nat) (metas : List ChunkMeta) (h : chs.mapM decChunk = some metas) :
    decRG (rgT chs blen rows) = some { columns := metas, totalByteSize := blen, numRows := rows } := by
  have : decRG (rgT chs blen rows) = (chs.mapM decChunk).bind fun cs => some ⟨cs, blen, rows⟩ := rfl
  rw [this, h]
  rfl

theorem mapM_decRG_rgTs (k : Codec) : ∀ (prgs : List (Nat × List PItem)) (pos : Nat),
    (rgTs k.id (prgs.map fun g => (g.1, g.2.map (mkItem k))) pos).mapM decRG = some (fileMetas k prgs pos)
  | [], _ => rfl
  | g :: rest, pos => by
    rw [List.map_cons, rgTs, List.mapM_cons, ← rgT, decRG_rgT _ _ _ _ (mapM_decChunk_locs k g.2 pos),
      mapM_decRG_rgTs k rest]
    rfl

end PQ
