import PQ.Props.C17
import PQ.Lemmas.Basic
/-!
Bridges the `BitVec 8` theorems of `PQ.C17` (about the *generated* tables) to the `List Nat`
wrappers `PQ.pack`/`PQ.unpack` the RLE model uses, and to the arithmetic specification layout
`packSpec`/`unpackSpec`.
-/
namespace PQ
open PQ.Gen

theorem bv_toNat (b : BitVec 8) : bv b.toNat = b := by
  apply BitVec.eq_of_toNat_eq
  simp [bv]

theorem bv_zero : bv 0 = 0 := rfl

theorem toNat_bv (a : Nat) (h : a < 256) : (bv a).toNat = a := Nat.mod_eq_of_lt h

theorem map_bv_toNat (bs : List (BitVec 8)) : (bs.map BitVec.toNat).map bv = bs := by
  rw [List.map_map]
  exact (List.map_congr_left fun b _ => bv_toNat b).trans (List.map_id _)

theorem map_toNat_bv (bs : Bytes) (h : ∀ b ∈ bs, b < 256) : (bs.map bv).map BitVec.toNat = bs := by
  rw [List.map_map]
  exact (List.map_congr_left fun b hb => toNat_bv b (h b hb)).trans (List.map_id _)

theorem mask_toNat (a k : Nat) (hk : k ≤ 8) : (bv a &&& C17.mask k).toNat = a % 2 ^ k := by
  have hlt : 2 ^ k - 1 < 2 ^ 8 := Nat.lt_of_lt_of_le (Nat.sub_lt (Nat.pow_pos (by decide)) (by decide))
    (Nat.pow_le_pow_right (by decide) hk)
  rw [C17.mask, BitVec.toNat_and, BitVec.toNat_ofNat, Nat.mod_eq_of_lt hlt, Nat.and_two_pow_sub_one_eq_mod]
  exact Nat.mod_mod_of_dvd a (Nat.pow_dvd_pow 2 hk)

theorem map_mod_id (k : Nat) (g : List Nat) (hg : ∀ x ∈ g, x < k) : g.map (· % k) = g :=
  (List.map_congr_left fun x hx => Nat.mod_eq_of_lt (hg x hx)).trans (List.map_id _)

theorem list8 {α : Type} (g : List α) (h : g.length = 8) :
    ∃ a b c d e f g' h', g = [a, b, c, d, e, f, g', h'] := by
  rcases g with _ | ⟨a, _ | ⟨b, _ | ⟨c, _ | ⟨d, _ | ⟨e, _ | ⟨f, _ | ⟨g', _ | ⟨h', _ | ⟨i, t⟩⟩⟩⟩⟩⟩⟩⟩⟩ <;>
    simp at h
  exact ⟨_, _, _, _, _, _, _, _, rfl⟩

/-! ## the tables, for all four widths at once

`pack w g` is `w` bytes laying out the group `g`; `unpack w bs` is eight `w`-bit values that `bs` lays out.
These two statements are the only place where the four widths are told apart; both round trips, the lengths
and the agreement with `packSpec` follow from `C17.Layout`. -/

theorem pack_layout (w : Nat) (hw : 1 ≤ w ∧ w ≤ 4) (g : List Nat) (hl : g.length = 8) :
    ∃ bs : List (BitVec 8), bs.length = w ∧ pack w g = bs.map BitVec.toNat ∧ C17.Layout w bs (g.map bv) := by
  obtain ⟨a, b, c, d, e, f, g', h', rfl⟩ := list8 g hl
  obtain rfl | rfl | rfl | rfl : w = 1 ∨ w = 2 ∨ w = 3 ∨ w = 4 := by omega
  · exact ⟨_, rfl, rfl, C17.pack_spec1 _ _ _ _ _ _ _ _⟩
  · exact ⟨_, rfl, rfl, C17.pack_spec2 _ _ _ _ _ _ _ _⟩
  · exact ⟨_, rfl, rfl, C17.pack_spec3 _ _ _ _ _ _ _ _⟩
  · exact ⟨_, rfl, rfl, C17.pack_spec4 _ _ _ _ _ _ _ _⟩

theorem unpack_layout (w : Nat) (hw : 1 ≤ w ∧ w ≤ 4) (bs : Bytes) (hl : bs.length = w) :
    ∃ vs : List (BitVec 8), vs.length = 8 ∧ unpack w bs = vs.map BitVec.toNat ∧ C17.Layout w (bs.map bv) vs ∧
      ∀ v ∈ vs, v &&& C17.mask w = v := by
  subst hl
  obtain _ | ⟨a, _ | ⟨b, _ | ⟨c, _ | ⟨d, _ | _⟩⟩⟩⟩ := bs <;> try (simp only [List.length_cons, List.length_nil] at hw; omega)
  · exact ⟨_, rfl, rfl, C17.unpack_layout1 _, C17.unpack_within1 _⟩
  · exact ⟨_, rfl, rfl, C17.unpack_layout2 _ _, C17.unpack_within2 _ _⟩
  · exact ⟨_, rfl, rfl, C17.unpack_layout3 _ _ _, C17.unpack_within3 _ _ _⟩
  · exact ⟨_, rfl, rfl, C17.unpack_layout4 _ _ _ _, C17.unpack_within4 _ _ _ _⟩

theorem pack_length (w : Nat) (hw : 1 ≤ w ∧ w ≤ 4) (g : List Nat) (hl : g.length = 8) :
    (pack w g).length = w := by
  obtain ⟨bs, hbl, hp, -⟩ := pack_layout w hw g hl
  rw [hp, List.length_map, hbl]

theorem pack_lt (w : Nat) (g : List Nat) : ∀ b ∈ pack w g, b < 256 := by
  intro b hb
  unfold pack at hb
  split at hb
  all_goals first
    | (obtain ⟨x, _, rfl⟩ := List.mem_map.mp hb
       exact x.isLt)
    | cases hb

theorem unpack_length (w : Nat) (hw : 1 ≤ w ∧ w ≤ 4) (bs : Bytes) (hl : bs.length = w) :
    (unpack w bs).length = 8 := by
  obtain ⟨vs, hvl, hu, -⟩ := unpack_layout w hw bs hl
  rw [hu, List.length_map, hvl]

theorem unpack_lt (w : Nat) (hw : 1 ≤ w ∧ w ≤ 4) (bs : Bytes) (hl : bs.length = w) : ∀ x ∈ unpack w bs, x < 2 ^ w := by
  obtain ⟨vs, -, hu, -, hm⟩ := unpack_layout w hw bs hl
  intro x hx
  obtain ⟨v, hv, rfl⟩ := List.mem_map.mp (hu ▸ hx)
  rw [← hm v hv, ← bv_toNat v, mask_toNat _ w (by omega)]
  exact Nat.mod_lt _ (Nat.pow_pos (by decide))

theorem unpack_pack_mod (w : Nat) (hw : 1 ≤ w ∧ w ≤ 4) (g : List Nat) (hl : g.length = 8) :
    unpack w (pack w g) = g.map (· % 2 ^ w) := by
  obtain ⟨bs, hbl, hp, hx⟩ := pack_layout w hw g hl
  obtain ⟨vs, hvl, hu, hv, hm⟩ := unpack_layout w hw (pack w g) (pack_length w hw g hl)
  rw [hp, map_bv_toNat] at hv
  rw [hu, C17.Layout.values_eq hx hv (by rw [List.length_map, hl]) hvl hm, List.map_map, List.map_map]
  exact List.map_congr_left fun a _ => mask_toNat a w (by omega)

theorem unpack_pack (w : Nat) (hw : 1 ≤ w ∧ w ≤ 4) (g : List Nat) (hl : g.length = 8)
    (hg : ∀ x ∈ g, x < 2 ^ w) : unpack w (pack w g) = g := by
  rw [unpack_pack_mod w hw g hl, map_mod_id _ g hg]

theorem pack_unpack (w : Nat) (hw : 1 ≤ w ∧ w ≤ 4) (bs : Bytes) (hl : bs.length = w)
    (hb : ∀ b ∈ bs, b < 256) : pack w (unpack w bs) = bs := by
  obtain ⟨vs, hvl, hu, hv, -⟩ := unpack_layout w hw bs hl
  obtain ⟨bs', hbl, hp, hx⟩ := pack_layout w hw (unpack w bs) (unpack_length w hw bs hl)
  rw [hu, map_bv_toNat] at hx
  rw [hp, C17.Layout.stream_eq hv hx (by rw [List.length_map, hl]) hbl, map_toNat_bv bs hb]

theorem packNum_lt (w : Nat) (g : List Nat) : packNum w g < (2 ^ w) ^ g.length := by
  induction g with
  | nil => simp [packNum]
  | cons v vs ih =>
    simp only [packNum, List.length_cons, Nat.pow_succ]
    have h1 : v % 2 ^ w < 2 ^ w := Nat.mod_lt _ (Nat.pow_pos (by omega))
    have h2 : 0 < 2 ^ w := Nat.pow_pos (by omega)
    calc v % 2 ^ w + 2 ^ w * packNum w vs < 2 ^ w + 2 ^ w * packNum w vs := by omega
      _ = 2 ^ w * (packNum w vs + 1) := by rw [Nat.mul_add]; omega
      _ ≤ 2 ^ w * (2 ^ w) ^ vs.length := Nat.mul_le_mul_left _ ih
      _ = (2 ^ w) ^ vs.length * 2 ^ w := Nat.mul_comm _ _

theorem unpackNum_packNum (w : Nat) (g : List Nat) :
    unpackNum w g.length (packNum w g) = g.map (· % 2 ^ w) := by
  induction g with
  | nil => rfl
  | cons v vs ih =>
    have h2 : 0 < 2 ^ w := Nat.pow_pos (by omega)
    have hv : v % 2 ^ w < 2 ^ w := Nat.mod_lt _ h2
    simp only [List.length_cons, unpackNum, packNum, List.map_cons]
    have e1 : (v % 2 ^ w + 2 ^ w * packNum w vs) % 2 ^ w = v % 2 ^ w := by
      rw [Nat.add_mul_mod_self_left]; exact Nat.mod_eq_of_lt hv
    have e2 : (v % 2 ^ w + 2 ^ w * packNum w vs) / 2 ^ w = packNum w vs := by
      rw [Nat.add_mul_div_left _ _ h2, Nat.div_eq_of_lt hv]; simp
    rw [e1, e2, ih]

theorem unpackSpec_packSpec_mod (w : Nat) (g : List Nat) (hl : g.length = 8) :
    unpackSpec w (packSpec w g) = g.map (· % 2 ^ w) := by
  unfold unpackSpec packSpec
  have hlt : packNum w g < 256 ^ w := by
    have := packNum_lt w g
    rw [hl] at this
    have e : (2 ^ w) ^ 8 = 256 ^ w := by
      rw [← Nat.pow_mul, Nat.mul_comm, Nat.pow_mul]
    rw [e] at this; exact this
  rw [fromLE_leBytes _ _ hlt, ← hl]
  exact unpackNum_packNum w g

theorem unpackSpec_packSpec (w : Nat) (g : List Nat) (hl : g.length = 8) (hg : ∀ x ∈ g, x < 2 ^ w) :
    unpackSpec w (packSpec w g) = g := by
  rw [unpackSpec_packSpec_mod w g hl, map_mod_id _ g hg]

theorem testBit_packNum (w : Nat) (hw : 0 < w) (g : List Nat) (k : Nat) :
    (packNum w g).testBit k = (g.getD (k / w) 0).testBit (k % w) := by
  induction g generalizing k with
  | nil => simp [packNum]
  | cons v vs ih =>
    have h2 : 0 < 2 ^ w := Nat.pow_pos (by omega)
    have hv : v % 2 ^ w < 2 ^ w := Nat.mod_lt _ h2
    simp only [packNum]
    rw [Nat.add_comm, Nat.testBit_two_pow_mul_add _ hv]
    by_cases hk : k < w
    · rw [if_pos hk, Nat.testBit_mod_two_pow, Nat.div_eq_of_lt hk, Nat.mod_eq_of_lt hk]
      simp [hk]
    · rw [if_neg hk, ih]
      have hkw : w ≤ k := by omega
      rw [Nat.div_eq_sub_div hw hkw, Nat.mod_eq_sub_mod hkw]
      simp

theorem testBit_leBytes (n x j i : Nat) (hj : j < n) (hi : i < 8) :
    ((leBytes n x).getD j 0).testBit i = x.testBit (8 * j + i) := by
  induction n generalizing x j with
  | zero => omega
  | succ n ih =>
    simp only [leBytes]
    cases j with
    | zero =>
      simp only [List.getD_cons_zero, Nat.mul_zero, Nat.zero_add]
      have : (256 : Nat) = 2 ^ 8 := by decide
      rw [this, Nat.testBit_mod_two_pow]
      simp [hi]
    | succ j =>
      simp only [List.getD_cons_succ]
      rw [ih (x / 256) j (by omega)]
      have : (256 : Nat) = 2 ^ 8 := by decide
      rw [this, Nat.testBit_div_two_pow]
      congr 1
      omega

theorem getLsbD_bv (a i : Nat) (hi : i < 8) : (bv a).getLsbD i = a.testBit i := by
  rw [bv, BitVec.getLsbD_ofNat, decide_eq_true hi, Bool.true_and]

theorem packSpec_length (w : Nat) (g : List Nat) : (packSpec w g).length = w := leBytes_length _ _

theorem packSpec_layout (w : Nat) (hw : 1 ≤ w ∧ w ≤ 8) (g : List Nat) :
    C17.Layout w ((packSpec w g).map bv) (g.map bv) := by
  intro k hk
  have h8 : k % 8 < 8 := Nat.mod_lt _ (by decide)
  have hkw : k % w < 8 := Nat.lt_of_lt_of_le (Nat.mod_lt _ hw.1) hw.2
  rw [C17.streamBit, C17.specBit, ← bv_zero, getD_map, getD_map, getLsbD_bv _ _ h8, getLsbD_bv _ _ hkw, packSpec,
    testBit_leBytes w _ (k / 8) (k % 8) (Nat.div_lt_of_lt_mul hk) h8, Nat.div_add_mod, testBit_packNum w hw.1]

/-- the generated tables compute the specification's LSB-first little-endian layout
(no range hypothesis needed: both sides mask every value to `w` bits) -/
theorem pack_eq_packSpec' (w : Nat) (hw : 1 ≤ w ∧ w ≤ 4) (g : List Nat) (hl : g.length = 8) :
    pack w g = packSpec w g := by
  obtain ⟨bs, hbl, hp, hx⟩ := pack_layout w hw g hl
  rw [hp, C17.Layout.stream_eq (packSpec_layout w ⟨hw.1, by omega⟩ g) hx (by rw [List.length_map, packSpec_length]) hbl,
    map_toNat_bv (packSpec w g) (leBytes_lt _ _)]

theorem pack_eq_packSpec (w : Nat) (hw : 1 ≤ w ∧ w ≤ 4) (g : List Nat) (hl : g.length = 8)
    (_hg : ∀ x ∈ g, x < 256) : pack w g = packSpec w g := pack_eq_packSpec' w hw g hl

theorem unpack_eq_unpackSpec (w : Nat) (hw : 1 ≤ w ∧ w ≤ 4) (bs : Bytes) (hl : bs.length = w)
    (hb : ∀ b ∈ bs, b < 256) : unpack w bs = unpackSpec w bs := by
  have h8 := unpack_length w hw bs hl
  have hp := pack_unpack w hw bs hl hb
  rw [pack_eq_packSpec' w hw _ h8] at hp
  have := unpackSpec_packSpec w (unpack w bs) h8 (unpack_lt w hw bs hl)
  rw [hp] at this
  exact this.symm

theorem unpackSpec_pack (w : Nat) (hw : 1 ≤ w ∧ w ≤ 4) (g : List Nat) (hl : g.length = 8)
    (hg : ∀ x ∈ g, x < 2 ^ w) : unpackSpec w (pack w g) = g := by
  rw [pack_eq_packSpec' w hw g hl, unpackSpec_packSpec w g hl hg]

end PQ
