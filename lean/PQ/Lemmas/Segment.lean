import PQ.Model.SpecWriter
import PQ.Lemmas.RleImpl
/-!
For C04: every output of the nondeterministic level segmenter is a well-formed run list for the same levels, of
linear size, which the library's decoder reads back; and `PageHeader.Read` only depends on what `lookup` finds for the
ids it asks for.
-/
namespace PQ

/-- one unfolding of `segment` on a non-empty list, with the choice pairs projected out -/
theorem segment_cons (padv fuel : Nat) (cs : Choices) (x : Nat) (xs' : List Nat) :
    segment padv (fuel+1) cs (x :: xs') =
      (let xs := x :: xs'
       let c := (pick cs).1
       let k := (pick (pick cs).2).1
       let cs2 := (pick (pick cs).2).2
       if c % 2 = 0 then
         let n := k % runLen xs + 1
         (Run.rle n x :: (segment padv fuel cs2 (xs.drop n)).1, (segment padv fuel cs2 (xs.drop n)).2)
       else
         let maxG := (xs.length + 7) / 8
         let g := if c % 7 = 1 then maxG else k % (min maxG 80) + 1
         let take := min (g * 8) xs.length
         let padded := xs.take take ++ List.replicate (g * 8 - take) padv
         let groups := (List.range g).map fun i => (padded.drop (i * 8)).take 8
         if take < g * 8 then ([Run.packed groups], cs2)
         else (Run.packed groups :: (segment padv fuel cs2 (xs.drop take)).1, (segment padv fuel cs2 (xs.drop take)).2)) := by
  rw [segment]
  · rfl
  · simp

theorem segment_nil (padv fuel : Nat) (cs : Choices) : segment padv fuel cs [] = ([], cs) := by
  cases fuel <;> rfl

theorem take_takeWhile_eq (x : Nat) (xs : List Nat) (m : Nat)
    (h : m ≤ (xs.takeWhile (· == x)).length) : xs.take m = List.replicate m x := by
  induction xs generalizing m with
  | nil => simp at h; subst h; rfl
  | cons y ys ih =>
    cases m with
    | zero => rfl
    | succ m =>
      rw [List.takeWhile_cons] at h
      by_cases hy : (y == x) = true
      · rw [if_pos hy] at h
        have hyx : y = x := by simpa using hy
        rw [List.take_succ_cons, List.replicate_succ, ih m (by simpa using h), hyx]
      · rw [if_neg hy] at h; simp at h

theorem runLen_le (xs : List Nat) : runLen xs ≤ xs.length := by
  cases xs with
  | nil => simp [runLen]
  | cons x xs =>
    have := (List.takeWhile_prefix (· == x) (l := xs)).length_le
    simp only [runLen, List.length_cons]; omega

theorem runLen_pos (x : Nat) (xs : List Nat) : 1 ≤ runLen (x :: xs) := by
  simp only [runLen]; omega

theorem take_runLen (x : Nat) (xs : List Nat) (n : Nat) (h : n ≤ runLen (x :: xs)) :
    (x :: xs).take n = List.replicate n x := by
  cases n with
  | zero => rfl
  | succ n =>
    rw [List.take_succ_cons, List.replicate_succ, take_takeWhile_eq x xs n (by simp only [runLen] at h; omega)]

theorem groups8 (g : Nat) (L : List Nat) (hL : L.length = g * 8) :
    ((List.range g).map fun i => (L.drop (i * 8)).take 8).flatten = L
    ∧ ∀ grp ∈ ((List.range g).map fun i => (L.drop (i * 8)).take 8), grp.length = 8 ∧ ∀ x ∈ grp, x ∈ L := by
  induction g generalizing L with
  | zero =>
    have : L = [] := List.eq_nil_of_length_eq_zero (by omega)
    subst this; simp
  | succ g ih =>
    have h8 : (L.drop 8).length = g * 8 := by rw [List.length_drop]; omega
    obtain ⟨ih1, ih2⟩ := ih (L.drop 8) h8
    have hmap : ((List.range (g + 1)).map fun i => (L.drop (i * 8)).take 8)
        = L.take 8 :: ((List.range g).map fun i => ((L.drop 8).drop (i * 8)).take 8) := by
      rw [List.range_succ_eq_map, List.map_cons, List.map_map]
      congr 1
      apply List.map_congr_left
      intro i _
      simp only [Function.comp, List.drop_drop]
      congr 2; omega
    rw [hmap]
    refine ⟨?_, ?_⟩
    · rw [List.flatten_cons, ih1, List.take_append_drop]
    · intro grp hgrp
      rcases List.mem_cons.mp hgrp with rfl | hgrp
      · refine ⟨by rw [List.length_take]; omega, fun x hx => List.mem_of_mem_take hx⟩
      · obtain ⟨a, b⟩ := ih2 grp hgrp
        exact ⟨a, fun x hx => List.mem_of_mem_drop (b x hx)⟩

/-- what `segment` promises of the runs it emits for the levels `xs` -/
def SegOK (w padv : Nat) (xs : List Nat) (runs : List Run) : Prop :=
  (∀ r ∈ runs, r.WF w)
  ∧ (∃ pad, pad < 8 ∧ runsVals runs = xs ++ List.replicate pad padv)
  ∧ (∀ c v, Run.rle c v ∈ runs → c ≤ xs.length)

theorem SegOK.nil (w padv : Nat) : SegOK w padv [] [] :=
  ⟨by simp, ⟨0, by omega, by simp [runsVals]⟩, by simp⟩

/-- a run holding the first `n` levels, in front of a segmentation of the others -/
theorem SegOK.cons {w padv : Nat} {xs : List Nat} {runs : List Run} {r : Run} (n : Nat) (hr : r.WF w)
    (hv : r.vals = xs.take n) (hc : ∀ c v, r = .rle c v → c ≤ xs.length) (h : SegOK w padv (xs.drop n) runs) :
    SegOK w padv xs (r :: runs) := by
  obtain ⟨i1, ⟨pad, hpad, i2⟩, i3⟩ := h
  refine ⟨?_, ⟨pad, hpad, ?_⟩, ?_⟩
  · intro r' hr'
    rcases List.mem_cons.mp hr' with rfl | hr'
    · exact hr
    · exact i1 r' hr'
  · simp only [runsVals, List.flatMap_cons] at i2 ⊢
    rw [i2, hv, ← List.append_assoc, List.take_append_drop]
  · intro c v hcv
    rcases List.mem_cons.mp hcv with e | hcv
    · exact hc c v e.symm
    · have := i3 c v hcv
      rw [List.length_drop] at this; omega

theorem packed_groups_ok (w g : Nat) (L : List Nat) (hL : L.length = g * 8) (hx : ∀ x ∈ L, x < 2 ^ w) (hg : 1 ≤ g) :
    (Run.packed ((List.range g).map fun i => (L.drop (i * 8)).take 8)).WF w
    ∧ (Run.packed ((List.range g).map fun i => (L.drop (i * 8)).take 8)).vals = L := by
  obtain ⟨gf, gm⟩ := groups8 g L hL
  exact ⟨⟨by rw [List.length_map, List.length_range]; exact hg,
    fun grp hgrp => ⟨(gm grp hgrp).1, fun y hy => hx y ((gm grp hgrp).2 y hy)⟩⟩, gf⟩

/-- `fuel ≥ xs.length` suffices: every step consumes at least one level -/
theorem segment_ok (w padv : Nat) (hp : padv < 2 ^ w) (fuel : Nat) (cs : Choices) (xs : List Nat)
    (hx : ∀ x ∈ xs, x < 2 ^ w) (hf : xs.length ≤ fuel) : SegOK w padv xs (segment padv fuel cs xs).1 := by
  induction fuel generalizing cs xs with
  | zero =>
    have : xs = [] := List.eq_nil_of_length_eq_zero (by omega)
    subst this
    exact SegOK.nil w padv
  | succ fuel ih =>
    cases xs with
    | nil => rw [segment_nil]; exact SegOK.nil w padv
    | cons x xs' =>
      have hS := segment_cons padv fuel cs x xs'
      simp only at hS
      generalize (pick (pick cs).2).1 = k at hS
      generalize (pick (pick cs).2).2 = cs2 at hS
      generalize (pick cs).1 = c at hS
      by_cases hc : c % 2 = 0
      · -- RLE run
        rw [if_pos hc] at hS
        rw [hS]
        have hrl := runLen_le (x :: xs')
        have hrp := runLen_pos x xs'
        have hmod : k % runLen (x :: xs') < runLen (x :: xs') := Nat.mod_lt _ (by omega)
        refine SegOK.cons (k % runLen (x :: xs') + 1) ⟨by omega, hx x (by simp)⟩
          (take_runLen x xs' _ (by omega)).symm (fun c' v e => by cases e; omega)
          (ih cs2 _ (fun y hy => hx y (List.mem_of_mem_drop hy)) ?_)
        rw [List.length_drop]; simp only [List.length_cons] at hf hrl ⊢; omega
      · -- bit-packed run
        rw [if_neg hc] at hS
        generalize hxs : x :: xs' = xs at *
        have hxl : 1 ≤ xs.length := by rw [← hxs]; simp
        generalize hg : (if c % 7 = 1 then (xs.length + 7) / 8 else k % (min ((xs.length + 7) / 8) 80) + 1) = g at hS
        have hG : 1 ≤ (xs.length + 7) / 8 := by omega
        obtain ⟨hg1, hg2⟩ : 1 ≤ g ∧ g ≤ (xs.length + 7) / 8 := by
          rw [← hg]; split
          · exact ⟨hG, Nat.le_refl _⟩
          · exact ⟨Nat.le_add_left 1 _,
              Nat.le_trans (Nat.mod_lt k (Nat.lt_min.mpr ⟨hG, by decide⟩)) (Nat.min_le_left _ _)⟩
        by_cases hlt : xs.length < g * 8
        · -- the last run: all of `xs`, padded with `padv`
          rw [Nat.min_eq_right (Nat.le_of_lt hlt), if_pos hlt, List.take_length] at hS
          obtain ⟨hwfp, hvp⟩ := packed_groups_ok w g (xs ++ List.replicate (g * 8 - xs.length) padv)
            (by rw [List.length_append, List.length_replicate]; omega)
            (fun y hy => (List.mem_append.mp hy).elim (hx y) fun h => (List.mem_replicate.mp h).2 ▸ hp) hg1
          rw [hS]
          exact ⟨fun r hr => by rw [List.mem_singleton.mp hr]; exact hwfp,
            ⟨g * 8 - xs.length, by omega, by rw [runsVals, List.flatMap_cons, List.flatMap_nil, List.append_nil, hvp]⟩,
            fun c' v h => by cases List.mem_singleton.mp h⟩
        · have hle := Nat.le_of_not_lt hlt
          rw [Nat.min_eq_left hle, if_neg (Nat.lt_irrefl _), Nat.sub_self, List.replicate_zero, List.append_nil] at hS
          obtain ⟨hwfp, hvp⟩ := packed_groups_ok w g (xs.take (g * 8))
            (by rw [List.length_take]; exact Nat.min_eq_left hle) (fun y hy => hx y (List.mem_of_mem_take hy)) hg1
          rw [hS]
          exact SegOK.cons (g * 8) hwfp hvp (fun c' v e => by cases e)
            (ih cs2 _ (fun y hy => hx y (List.mem_of_mem_drop hy)) (by rw [List.length_drop]; omega))

/-- Unlike the library's encoder (two bytes per value, `ser_length_le`) a foreign writer may emit RLE runs of a single
value: a header of up to 5 bytes and one value byte, hence the factor 6.  The header is twice the count, and 5 bytes
hold what is below `128^5 = 2^35`, hence the bound `2^34` on the number of values. -/
theorem ser_length_le_wf (w : Nat) (h8 : w ≤ 8) (r : Run) (hwf : r.WF w) (hb : r.vals.length < 2 ^ 34) :
    (r.ser w).length ≤ 6 * r.vals.length := by
  cases r with
  | rle c v =>
    obtain ⟨hc, _⟩ := hwf
    simp only [Run.vals, List.length_replicate] at hb
    have h5 := uleb_length_le 5 (by omega) (c * 2) (by
      have : (128 : Nat) ^ 5 = 2 ^ 35 := by decide
      omega)
    have hv : (leBytes ((w + 7) / 8) v).length ≤ 1 := by rw [leBytes_length]; omega
    simp only [Run.ser, Run.vals, List.length_append, List.length_replicate]
    omega
  | packed gs =>
    obtain ⟨hg1, hg⟩ := hwf
    have hfl := length_flatten_const 8 gs (fun g h => (hg g h).1)
    simp only [Run.vals, hfl] at hb
    have h5 := uleb_length_le 5 (by omega) (gs.length * 2 + 1) (by
      have : (128 : Nat) ^ 5 = 2 ^ 35 := by decide
      omega)
    simp only [Run.ser, Run.vals, List.length_append, flatMap_packSpec_length, hfl]
    have : gs.length * w ≤ gs.length * 8 := Nat.mul_le_mul_left _ h8
    omega

theorem serRuns_length_le_wf (w : Nat) (h8 : w ≤ 8) (runs : List Run) (hwf : ∀ r ∈ runs, r.WF w)
    (hb : (runsVals runs).length < 2 ^ 34) : (serRuns w runs).length ≤ 6 * (runsVals runs).length :=
  serRuns_length_le_mul w 6 runs fun r hr =>
    ser_length_le_wf w h8 r (hwf r hr) (Nat.lt_of_le_of_lt (vals_length_le runs r hr) hb)

theorem levelSection_eq (w : Nat) (runs : List Run) :
    levelSection w runs = le32 (serRuns w runs).length ++ serRuns w runs := rfl

theorem levelSection_length (w : Nat) (runs : List Run) :
    (levelSection w runs).length = 4 + (serRuns w runs).length := by
  rw [levelSection_eq, List.length_append, le32_length]

theorem segment_size (w padv : Nat) (h8 : w ≤ 8) (hp : padv < 2 ^ w) (fuel : Nat) (cs : Choices)
    (xs : List Nat) (hx : ∀ x ∈ xs, x < 2 ^ w) (hf : xs.length ≤ fuel) (hlen : xs.length + 8 ≤ 2 ^ 34) :
    (serRuns w (segment padv fuel cs xs).1).length ≤ 6 * (xs.length + 7) := by
  obtain ⟨hwf, ⟨pad, hpad, hv⟩, _⟩ := segment_ok w padv hp fuel cs xs hx hf
  have hl : (runsVals (segment padv fuel cs xs).1).length = xs.length + pad := by
    rw [hv, List.length_append, List.length_replicate]
  have := serRuns_length_le_wf w h8 _ hwf (by omega)
  omega

theorem implDecode_segment (w : Nat) (hw : 1 ≤ w ∧ w ≤ 4) (padv : Nat) (hp : padv < 2 ^ w)
    (fuel : Nat) (cs : Choices) (xs : List Nat) (hx : ∀ x ∈ xs, x < 2 ^ w) (hf : xs.length ≤ fuel)
    (hlen : xs.length + 8 ≤ 2 ^ 28) (rest : Bytes) :
    ∃ pad, pad < 8 ∧
      implDecode w (levelSection w (segment padv fuel cs xs).1 ++ rest)
        = .ok (xs ++ List.replicate pad padv, (levelSection w (segment padv fuel cs xs).1).length) := by
  obtain ⟨hwf, ⟨pad, hpad, hv⟩, hc⟩ := segment_ok w padv hp fuel cs xs hx hf
  -- `2^28`: the section's `6 · (n + 7)` bytes then stay below the `2^31` of `implDecode`'s `int32` length prefix
  have hsz := segment_size w padv (by omega) hp fuel cs xs hx hf (by omega)
  refine ⟨pad, hpad, ?_⟩
  rw [levelSection_length, levelSection_eq,
    implDecode_ser w hw _ hwf (fun c v h => by have := hc c v h; omega) (by omega) rest, hv]

theorem readLevelsAt_segment (w : Nat) (hw : 1 ≤ w ∧ w ≤ 4) (padv : Nat) (hp : padv < 2 ^ w)
    (fuel : Nat) (cs : Choices) (xs : List Nat) (hx : ∀ x ∈ xs, x < 2 ^ w) (hf : xs.length ≤ fuel)
    (hlen : xs.length + 8 ≤ 2 ^ 28) (pre rest : Bytes) :
    ∃ pad, pad < 8 ∧
      readLevelsAt w (pre ++ levelSection w (segment padv fuel cs xs).1 ++ rest) pre.length
        = .ok (xs ++ List.replicate pad padv, (levelSection w (segment padv fuel cs xs).1).length) := by
  obtain ⟨pad, hpad, h⟩ := implDecode_segment w hw padv hp fuel cs xs hx hf hlen rest
  refine ⟨pad, hpad, ?_⟩
  unfold readLevelsAt
  rw [if_neg (by simp only [List.length_append]; omega), List.append_assoc, List.drop_left, h]

section Fields
open PQ.Thrift

theorem lookup_insert (fs1 extra fs2 : List (Nat × TVal)) (id : Nat) (h : ∀ p ∈ extra, p.1 ≠ id) :
    (fs1 ++ extra ++ fs2).lookup id = (fs1 ++ fs2).lookup id := by
  rw [List.lookup_append, List.lookup_append, List.lookup_append,
    List.lookup_eq_none_iff.mpr fun p hp => bne_iff_ne.mpr fun e => h p hp e.symm]
  cases List.lookup id fs1 <;> rfl

theorem lookup_insert_of_notMem (fs1 extra fs2 : List (Nat × TVal)) (ids : List Nat) (h : ∀ p ∈ extra, p.1 ∉ ids) :
    ∀ id ∈ ids, (fs1 ++ extra ++ fs2).lookup id = (fs1 ++ fs2).lookup id :=
  fun id hid => lookup_insert fs1 extra fs2 id fun p hp e => h p hp (e ▸ hid)

theorem decPHdr_congr (fs fs' : List (Nat × TVal))
    (h : ∀ id ∈ [1, 2, 3, 5, 6, 7, 8], fs'.lookup id = fs.lookup id) :
    decPHdr (.struct fs') = decPHdr (.struct fs) := by
  unfold decPHdr getI32 getStruct TVal.fieldsOf
  dsimp only
  rw [h 1 (by decide), h 2 (by decide), h 3 (by decide), h 5 (by decide), h 6 (by decide), h 7 (by decide), h 8 (by decide)]

theorem lookup_replace (fs1 fs2 : List (Nat × TVal)) (k : Nat) (x y : TVal) (id : Nat) (h : id ≠ k) :
    (fs1 ++ (k, x) :: fs2).lookup id = (fs1 ++ (k, y) :: fs2).lookup id := by
  have hb : (id == k) = false := by simpa using h
  rw [List.lookup_append, List.lookup_append, List.lookup_cons, List.lookup_cons, hb]

theorem lookup_here (fs1 fs2 : List (Nat × TVal)) (k : Nat) (x : TVal) (h : fs1.lookup k = none) :
    (fs1 ++ (k, x) :: fs2).lookup k = some x := by
  rw [List.lookup_append, h, List.lookup_cons]; simp

theorem lookup_before (fs1 fs2 : List (Nat × TVal)) (k : Nat) (x v : TVal) (h : fs1.lookup k = some v) :
    (fs1 ++ (k, x) :: fs2).lookup k = some v := by
  rw [List.lookup_append, h]; rfl

/-- what of a page header the statistics do not reach -/
def PHdr.noStats (p : PHdr) :=
  (p.ty, p.uncompressed, p.compressed, p.dph.map (fun q => (q.1, q.2.1, q.2.2.1, q.2.2.2.1)), p.hasDict, p.hasIndex,
    p.hasV2)

/-- `decPHdr` when field 5 is a struct: only the lookups of 1, 2, 3, 6, 7, 8 in the header and of
1–5 in the data page header matter; and the statistics (5 in the data page header) only end up in the
last component of `dph` -/
theorem decPHdr_dph_congr (fs fs' d d' : List (Nat × TVal))
    (h : ∀ id ∈ [1, 2, 3, 6, 7, 8], fs'.lookup id = fs.lookup id)
    (h5 : fs.lookup 5 = some (.struct d)) (h5' : fs'.lookup 5 = some (.struct d'))
    (hd : ∀ id ∈ [1, 2, 3, 4], d'.lookup id = d.lookup id) :
    (decPHdr (.struct fs')).map PHdr.noStats = (decPHdr (.struct fs)).map PHdr.noStats
    ∧ (d'.lookup 5 = d.lookup 5 → decPHdr (.struct fs') = decPHdr (.struct fs)) := by
  simp only [decPHdr, TVal.fieldsOf, getI32, getStruct, h5, h5', h 1 (by decide), h 2 (by decide), h 3 (by decide),
    h 6 (by decide), h 7 (by decide), h 8 (by decide), hd 1 (by decide), hd 2 (by decide), hd 3 (by decide),
    hd 4 (by decide)]
  refine ⟨?_, fun e => by rw [e]⟩
  -- the projection forgets the statistics: push it through the binds and both sides are the same term
  simp only [bind, PHdr.noStats, Option.map_bind, Option.map_some, Function.comp_def, Option.bind_assoc,
    Option.bind_some]

/-- replacing the data page header struct `d` (field 5) by `d'` in place -/
theorem decPHdr_replace_dph (fs1 fs2 d d' : List (Nat × TVal))
    (hd : ∀ id ∈ [1, 2, 3, 4], d'.lookup id = d.lookup id) :
    (decPHdr (.struct (fs1 ++ (5, .struct d') :: fs2))).map PHdr.noStats
      = (decPHdr (.struct (fs1 ++ (5, .struct d) :: fs2))).map PHdr.noStats
    ∧ (d'.lookup 5 = d.lookup 5 →
        decPHdr (.struct (fs1 ++ (5, .struct d') :: fs2)) = decPHdr (.struct (fs1 ++ (5, .struct d) :: fs2))) := by
  have hne : ∀ id ∈ [1, 2, 3, 6, 7, 8], (fs1 ++ (5, TVal.struct d') :: fs2).lookup id
      = (fs1 ++ (5, TVal.struct d) :: fs2).lookup id := by
    intro id hid
    exact lookup_replace fs1 fs2 5 _ _ id (by intro e; subst e; simp at hid)
  cases hk : fs1.lookup 5 with
  | some v =>
    have e : decPHdr (.struct (fs1 ++ (5, .struct d') :: fs2)) = decPHdr (.struct (fs1 ++ (5, .struct d) :: fs2)) := by
      apply decPHdr_congr
      intro id hid
      by_cases h5 : id = 5
      · subst h5; rw [lookup_before _ _ _ _ v hk, lookup_before _ _ _ _ v hk]
      · exact lookup_replace fs1 fs2 5 _ _ id h5
    exact ⟨by rw [e], fun _ => e⟩
  | none =>
    exact decPHdr_dph_congr _ _ d d' hne (lookup_here _ _ _ _ hk) (lookup_here _ _ _ _ hk) hd

end Fields

end PQ
