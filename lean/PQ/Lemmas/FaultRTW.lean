import PQ.Lemmas.FaultRT
import PQ.Lemmas.ReaderRT
/-!
# C10 on the files of the library's own writer model, and the no-fault case

* `outLoopF_ge` / `readOutcomeF_ge`: a budget of source-touching calls at least as large as the number of
  `Next` calls the driver makes is never used up: the run is the run over a healthy source.
* `readOutcomeF_runWriter`: `readOutcomeF_split` (FaultRT.lean) on the files `fileBytes (runWriter …)` of the writer
  model, whose row groups are the `batchGRGs` of the history (`runWriter_framed`, ReaderRT.lean).
* `outLoopF_batches`: `outLoopF_good_then_fault` (FaultRT.lean) on the `batchGRGs` of any two lists of batches; the
  file theorem does not go through it.
-/
namespace PQ
open PQ.Thrift

theorem nextF_pos (st : RState) (k : Nat) : st.nextF (k + 1) = (st.next, if st.touches then k else k + 1) := by
  cases h : st.touches with
  | true => rw [nextF_succ st k h]; rfl
  | false => rw [PQ.C10.nextF_not_touching st (k + 1) h]; rfl

/-- the loop calls `Next` at most `fuel` times, each call uses up at most one unit of the budget: with
`fuel ≤ k` the failing branch of `nextF` is never taken -/
theorem outLoopF_ge : ∀ (fuel : Nat) (st : RState) (k : Nat) (acc : List Row), fuel ≤ k →
    outLoopF fuel st k acc = outLoop fuel st acc
  | 0, st, k, acc, _ => by rw [outLoopF, outLoop]
  | fuel+1, st, k, acc, hk => by
    obtain ⟨k', rfl⟩ : ∃ k', k = k' + 1 := ⟨k - 1, by omega⟩
    have ih : ∀ (st' : RState) (acc' : List Row),
        outLoopF fuel st' (if st.touches then k' else k' + 1) acc' = outLoop fuel st' acc' :=
      fun st' acc' => outLoopF_ge fuel st' _ acc' (by split <;> omega)
    rw [outLoopF, outLoop, nextF_pos]
    cases hn : st.next with
    | error e => rfl
    | ok p =>
      obtain ⟨b, st'⟩ := p
      cases b with
      | false => rfl
      | true =>
        simp only [ih]
        -- the two sides differ only in the auxiliary `match` functions of the two definitions
        rfl

/-- with a budget of more source-touching calls than the driver makes API calls (the constructor and at most
`Rows() + 3` `Next`s) the fault never happens: the outcome is that of the healthy source -/
theorem readOutcomeF_ge (cols : List Col) (dc : Decomp) (file : Bytes) (k : Nat)
    (h : ∀ st, openReader cols dc file = .ok st → (st.rows + 3).toNat ≤ k) :
    readOutcomeF cols dc file (k + 1) = readOutcome cols dc file := by
  unfold readOutcomeF readOutcome
  rw [openReaderF_succ]
  cases ho : openReader cols dc file with
  | error e => cases e <;> rfl
  | ok st =>
    simp only
    exact outLoopF_ge _ st k [] (h st ho)

/-- **`outLoopF_good_then_fault` on the row groups of written batches** (laid out from `p0`): the batches `bsB`
still load, the load of the first batch of `T` is the call during which the source fails. -/
theorem outLoopF_batches (dc : Decomp) (k : Codec) (cols : List Col) {max : Nat} (hmax : 1 ≤ max) (hres : ColsResolve cols)
    (N : Int) (file : Bytes) (bsB T : List (List Rec)) (hB : ∀ b ∈ bsB, b ≠ [] ∧ BatchOK dc k cols max b)
    (hT : ∀ b ∈ T, b ≠ [] ∧ BatchOK dc k cols max b) (hTne : T ≠ []) (p0 : Nat)
    (rs : List Rec) (hrs : ∀ r ∈ rs, ∀ x ∈ cols.zipIdx, RecRd x.1 (r.getD x.2 [])) (pos : Nat) (post : Bytes)
    (cu rc rn : Int) (hl : file.drop pos = dataOf (batchGRGs k cols max (bsB ++ T) p0) ++ post)
    (hrn : rn = rc + (rs.length : Nat)) (hN : cu + (rs.length : Nat) + (((bsB.map List.length).sum : Nat) : Int) < N)
    (fuel : Nat) (hf : rs.length + (bsB.map List.length).sum < fuel) (acc : List Row) :
    outLoopF fuel (readerAt dc cols N file pos (batchGRGs k cols max (bsB ++ T) p0) cu rc rn (bufsOf cols rs) true)
        bsB.length acc =
      .refused (acc ++ (rs ++ bsB.flatten).map (rowOf cols.length)) := by
  rw [batchGRGs_append] at hl ⊢
  obtain ⟨h1, _, _⟩ := batchGRGs_spec k cols max bsB p0
  obtain ⟨t1, _, _⟩ := batchGRGs_spec k cols max T (p0 + (prgsBytes k (prgsOf cols max bsB)).length)
  have hokB := batchGRGs_ok dc k cols hmax bsB p0 hB
  have hokT := batchGRGs_ok dc k cols hmax T (p0 + (prgsBytes k (prgsOf cols max bsB)).length) hT
  generalize batchGRGs k cols max bsB p0 = gs at *
  generalize batchGRGs k cols max T (p0 + (prgsBytes k (prgsOf cols max bsB)).length) = gT at *
  subst h1 t1
  have hne : ∀ g ∈ gs, g.recs ≠ [] := fun g hg => (hB g.recs (List.mem_map.mpr ⟨g, hg, rfl⟩)).1
  have hsum : recsIn gs = ((gs.map (·.recs)).map List.length).sum := by rw [List.map_map]; rfl
  have hTpos : 0 < recsIn gT := by
    cases gT with
    | nil => exact absurd rfl hTne
    | cons g gT =>
      have := List.length_pos_iff.mpr (hT g.recs (by simp)).1
      rw [recsIn_cons]; omega
  have hlen : (gs.map (·.recs)).length = loadsOf gs := by rw [List.length_map, loadsOf_eq_length gs hne]
  rw [hlen,
    outLoopF_good_then_fault dc cols N file hres gT (fun g hg => (hokT g hg).toListed) hTpos gs hokB rs hrs pos post cu rc rn hl
      hrn (by rw [hsum]; exact hN) fuel (by rw [hsum]; exact hf) acc, List.flatMap_def]

/-- **C10 on the files of the writer model.**  Every `Close`d history of `Add`s and `Write`s whose batches are
`BatchOK` (the hypotheses of `readAll_runWriter`), read back over a source that fails during the constructor
(`j = 0`) or during the `Next` call that loads row group `j` (the row groups are the batches of the history; the
writer never emits an empty one): exactly the records of the batches before it are delivered, then `Next` is
false with the error set; never a panic, never acceptance. -/
theorem readOutcomeF_runWriter (dc : Decomp) (k : Codec) (cols : List Col) (max : Nat) (body : List Op) (j : Nat)
    (hmax : 1 ≤ max) (hcols : cols ≠ []) (hres : ColsResolve cols) (hbody : ∀ op ∈ body, op.isClose = false)
    (hok : ∀ b ∈ batches body, BatchOK dc k cols max b)
    (hsize : (fileBytes (runWriter cols max k (body ++ [Op.close]))).length < 2 ^ 32)
    (se : List SElem) (hschema : schemaElems cols = some se)
    (hj : j < (batches body).length) :
    readOutcomeF cols dc (fileBytes (runWriter cols max k (body ++ [Op.close]))) j =
      if j = 0 then .refusedAtOpen
      else .refused (((batches body).take j).flatten.map (fun r => (List.range cols.length).map fun i => r.getD i [])) := by
  obtain ⟨f, hgs, hfr, hrg, hN⟩ := runWriter_framed dc k cols max body hmax hcols hbody hok hsize se hschema
  obtain ⟨hrecs, _, _⟩ := batchGRGs_spec k cols max (batches body) 4
  generalize batchGRGs k cols max (batches body) 4 = gs at *
  have hgne : ∀ g ∈ gs, g.recs ≠ [] := by
    intro g hg
    have : g.recs ∈ batches body := by rw [← hrecs]; exact List.mem_map.mpr ⟨g, hg, rfl⟩
    exact batches_ne_nil body g.recs this
  have hgl : gs.length = (batches body).length := by rw [← hrecs, List.length_map]
  rw [readOutcomeF_split dc cols _ hres gs hgs hgne f hfr hrg hN j (by omega), ← hrecs, ← List.map_take, ← List.flatMap_def]
  rfl

/-! ## Non-vacuity: two columns, `max = 2`, history add ×3, write, write, add ×2, write, add, write, close: three row groups -/
section NonVacuity

private def fwxCols : List Col :=
  [{ path := ["a"], reps := [.req], ty := .i32 }, { path := ["b"], reps := [.rpt], ty := .i32 }]
private def fwxCodec : Codec := { id := 0, compress := id }
private def fwxDc : Decomp := { snappy := fun _ => none, gzip := fun _ => none }
private def fwxRec (k : Nat) : Rec :=
  [[{ rep := 0, dl := 0, val := some [k, 0, 0, 0] }],
   if k % 2 = 0 then [{ rep := 0, dl := 1, val := some [k, 0, 0, 0] }, { rep := 1, dl := 1, val := some [k, 1, 0, 0] }]
   else [{ rep := 0, dl := 0, val := none }]]
private def fwxBody : List Op :=
  [.add (fwxRec 1), .add (fwxRec 2), .add (fwxRec 3), .write, .write, .add (fwxRec 4), .add (fwxRec 5), .write, .add (fwxRec 6), .write]
private def fwxSe : List SElem :=
  [{ name := "root", numChildren := some 2 }, { name := "a", ty := some 1, rep := some 0 },
   { name := "b", ty := some 1, rep := some 2 }]

private theorem fwx_batches : batches fwxBody = [[fwxRec 1, fwxRec 2, fwxRec 3], [fwxRec 4, fwxRec 5], [fwxRec 6]] := by decide

private theorem fwx_ok : ∀ b ∈ batches fwxBody, BatchOK fwxDc fwxCodec fwxCols 2 b := by
  rw [fwx_batches]
  intro b hb
  refine batchOK_of_records fwxDc fwxCodec fwxCols (by decide) b ?_ ?_ (by decide) ?_ fun _ => .inl ⟨rfl, rfl⟩
  all_goals revert b; decide

/-- whatever is evaluated of this file, in one declaration, so that the kernel writes the file once: its size, and the
read with a budget that is not used up -/
private theorem fwx_eval : (fileBytes (runWriter fwxCols 2 fwxCodec (fwxBody ++ [Op.close]))).length < 2 ^ 32 ∧
    (readOutcomeF fwxCols fwxDc (fileBytes (runWriter fwxCols 2 fwxCodec (fwxBody ++ [Op.close]))) 3 ==
      .accepted [fwxRec 1, fwxRec 2, fwxRec 3, fwxRec 4, fwxRec 5, fwxRec 6]) = true := by decide +kernel

private theorem fwx_applied (j : Nat) (hj : j < 3) :
    readOutcomeF fwxCols fwxDc (fileBytes (runWriter fwxCols 2 fwxCodec (fwxBody ++ [Op.close]))) j =
      if j = 0 then .refusedAtOpen
      else .refused (([[fwxRec 1, fwxRec 2, fwxRec 3], [fwxRec 4, fwxRec 5], [fwxRec 6]].take j).flatten.map
        (rowOf fwxCols.length)) := by
  have := readOutcomeF_runWriter fwxDc fwxCodec fwxCols 2 fwxBody j (by decide) (by decide)
    (colsResolve_of_check _ (by decide +kernel)) (by decide) fwx_ok fwx_eval.1 fwxSe (by decide +kernel)
    (by rw [fwx_batches]; exact hj)
  rw [fwx_batches] at this
  exact this

/-- the theorem applied — all hypotheses discharged: the source fails during the `Next` that loads the third
row group; the five records of the first two are delivered, then the error -/
example : readOutcomeF fwxCols fwxDc (fileBytes (runWriter fwxCols 2 fwxCodec (fwxBody ++ [Op.close]))) 2 =
    .refused [fwxRec 1, fwxRec 2, fwxRec 3, fwxRec 4, fwxRec 5] := fwx_applied 2 (by decide)

/-- … during the `Next` that loads the second row group -/
example : (readOutcomeF fwxCols fwxDc (fileBytes (runWriter fwxCols 2 fwxCodec (fwxBody ++ [Op.close]))) 1 ==
    .refused [fwxRec 1, fwxRec 2, fwxRec 3]) = true := by
  rw [fwx_applied 1 (by decide)]
  decide

/-- by kernel evaluation of the models alone: a budget that is not used up -/
example : (readOutcomeF fwxCols fwxDc (fileBytes (runWriter fwxCols 2 fwxCodec (fwxBody ++ [Op.close]))) 3 ==
    .accepted [fwxRec 1, fwxRec 2, fwxRec 3, fwxRec 4, fwxRec 5, fwxRec 6]) = true := fwx_eval.2

end NonVacuity

end PQ
