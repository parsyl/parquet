/-!
# `String.splitOn` on lists of characters

`String.splitOn` is defined by well-founded recursion over byte positions; `splitOn_spec` shows that it
computes the structurally recursive `splitSpec` on the character lists, which is what the lemmas about
`parseTag` (C14, C15) and `lastPart` (C02) reason about.
-/
namespace PQ.Parse

def ulen : List Char → Nat
  | [] => 0
  | c :: cs => c.utf8Size + ulen cs

theorem ulen_append (p q : List Char) : ulen (p ++ q) = ulen p + ulen q := by
  induction p with
  | nil => simp [ulen]
  | cons c p ih => simp [ulen, ih, Nat.add_assoc]

theorem utf8ByteSize_ofList' (l : List Char) : (String.ofList l).utf8ByteSize = ulen l := by
  induction l with
  | nil => simp [ulen]
  | cons c l ih =>
    rw [String.ofList_cons, String.utf8ByteSize_append, String.utf8ByteSize_singleton, ih]; rfl

theorem pos_ne_add_ulen (i : Nat) (c : Char) (l : List Char) : (⟨i⟩ : String.Pos.Raw) ≠ ⟨i + ulen (c :: l)⟩ := fun e => by
  have := c.utf8Size_pos
  have := congrArg String.Pos.Raw.byteIdx e
  simp only [ulen] at this
  omega

theorem getAux_at (c : Char) (q : List Char) : ∀ (p : List Char) (i : Nat),
    String.Pos.Raw.utf8GetAux (p ++ c :: q) ⟨i⟩ ⟨i + ulen p⟩ = c
  | [], i => by simp [String.Pos.Raw.utf8GetAux, ulen]
  | d :: p, i => by
    rw [List.cons_append, String.Pos.Raw.utf8GetAux, if_neg (pos_ne_add_ulen i d p), ulen, ← Nat.add_assoc]
    exact getAux_at c q p (i + d.utf8Size)

/-- `strings.Split`-like specification on character lists: `skip` characters of a matched separator
remain to be skipped, `cur` is the piece being accumulated -/
def splitSpec (S : List Char) : List Char → Nat → List Char → List (List Char)
  | [], _, cur => [cur]
  | _ :: rest, skip+1, cur => splitSpec S rest skip cur
  | c :: rest, 0, cur =>
    if S.isPrefixOf (c :: rest) then cur :: splitSpec S rest (S.length - 1) [] else splitSpec S rest 0 (cur ++ [c])

theorem ulen_pos_of_ne_nil : ∀ {l : List Char}, l ≠ [] → 0 < ulen l
  | c :: l, _ => by have := c.utf8Size_pos; simp [ulen]; omega

theorem get_at (s : String) (P Q : List Char) (c : Char) (hs : s.toList = P ++ c :: Q) :
    String.Pos.Raw.get s ⟨ulen P⟩ = c := by
  rw [String.Pos.Raw.get, hs]
  have := getAux_at c Q P 0
  simpa using this

theorem next_at (s : String) (P Q : List Char) (c : Char) (hs : s.toList = P ++ c :: Q) :
    String.Pos.Raw.next s ⟨ulen P⟩ = ⟨ulen (P ++ [c])⟩ := by
  rw [String.Pos.Raw.next, get_at s P Q c hs]
  simp [String.Pos.Raw.ext_iff, ulen, ulen_append]

theorem atEnd_mid (s : String) (P Q : List Char) (c : Char) (hs : s.toList = P ++ c :: Q) :
    String.Pos.Raw.atEnd s ⟨ulen P⟩ = false := by
  have hsz : s.utf8ByteSize = ulen P + (c.utf8Size + ulen Q) := by
    rw [← String.ofList_toList (s := s), utf8ByteSize_ofList', hs, ulen_append]; rfl
  have := c.utf8Size_pos
  simp [String.Pos.Raw.atEnd, hsz]; omega

theorem atEnd_end (s : String) (P : List Char) (hs : s.toList = P) :
    String.Pos.Raw.atEnd s ⟨ulen P⟩ = true := by
  have hsz : s.utf8ByteSize = ulen P := by
    rw [← String.ofList_toList (s := s), utf8ByteSize_ofList', hs]
  simp [String.Pos.Raw.atEnd, hsz]

theorem go₂_take : ∀ (M Q : List Char) (i : Nat), String.Pos.Raw.extract.go₂ (M ++ Q) ⟨i⟩ ⟨i + ulen M⟩ = M
  | [], [], i => by simp [String.Pos.Raw.extract.go₂]
  | [], c :: Q, i => by simp [String.Pos.Raw.extract.go₂, ulen]
  | c :: M, Q, i => by
    rw [List.cons_append, String.Pos.Raw.extract.go₂, if_neg (pos_ne_add_ulen i c M), ulen, ← Nat.add_assoc]
    exact congrArg (c :: ·) (go₂_take M Q (i + c.utf8Size))

theorem go₁_skip : ∀ (P X : List Char) (i e : Nat),
    String.Pos.Raw.extract.go₁ (P ++ X) ⟨i⟩ ⟨i + ulen P⟩ ⟨e⟩ = String.Pos.Raw.extract.go₂ X ⟨i + ulen P⟩ ⟨e⟩
  | [], [], i, e => by simp [String.Pos.Raw.extract.go₁, String.Pos.Raw.extract.go₂]
  | [], c :: X, i, e => by simp [String.Pos.Raw.extract.go₁, ulen]
  | d :: P, X, i, e => by
    rw [List.cons_append, String.Pos.Raw.extract.go₁, if_neg (pos_ne_add_ulen i d P), ulen, ← Nat.add_assoc]
    exact go₁_skip P X (i + d.utf8Size) e

theorem extract_at (s : String) (P M Q : List Char) (hs : s.toList = P ++ M ++ Q) :
    String.Pos.Raw.extract s ⟨ulen P⟩ ⟨ulen (P ++ M)⟩ = String.ofList M := by
  rw [String.Pos.Raw.extract]
  cases M with
  | nil => simp
  | cons c M =>
    have := ulen_pos_of_ne_nil (List.cons_ne_nil c M)
    rw [if_neg (by simp [ulen_append]; omega)]
    have h1 := go₁_skip P (c :: M ++ Q) 0 (ulen (P ++ c :: M))
    have h2 := go₂_take (c :: M) Q (ulen P)
    simp only [Nat.zero_add] at h1
    rw [hs, List.append_assoc, show (0 : String.Pos.Raw) = ⟨0⟩ from rfl, h1, ulen_append, h2]

theorem splitSpec_nomatch (S : List Char) (x : Char) (rest cur : List Char) (h : S.isPrefixOf (x :: rest) = false) :
    splitSpec S (x :: rest) 0 cur = splitSpec S rest 0 (cur ++ [x]) := by
  rw [splitSpec, h]; simp

theorem splitSpec_noocc (S : List Char) : ∀ (Y Z cur : List Char),
    (∀ q, q ≠ [] → q <:+ Y → S.isPrefixOf (q ++ Z) = false) → splitSpec S (Y ++ Z) 0 cur = splitSpec S Z 0 (cur ++ Y)
  | [], Z, cur, _ => by simp
  | y :: Y, Z, cur, h => by
    rw [List.cons_append, splitSpec_nomatch S y (Y ++ Z) cur (h (y :: Y) (by simp) (List.suffix_refl _)),
      splitSpec_noocc S Y Z (cur ++ [y]) (fun q hq hs => h q hq (hs.trans (List.suffix_cons y Y)))]
    simp

theorem splitSpec_short (S X cur : List Char) (h : X.length < S.length) : splitSpec S X 0 cur = [cur ++ X] := by
  have := splitSpec_noocc S X [] cur fun q _ hq => Bool.eq_false_iff.mpr fun hb => by
    have h1 := (List.isPrefixOf_iff_prefix.mp hb).length_le
    have h2 := hq.length_le
    rw [List.append_nil] at h1
    omega
  rwa [List.append_nil, splitSpec] at this

theorem splitSpec_skip (S : List Char) : ∀ (X R cur : List Char), splitSpec S (X ++ R) X.length cur = splitSpec S R 0 cur
  | [], R, cur => rfl
  | x :: X, R, cur => by
    rw [List.cons_append, List.length_cons, splitSpec, splitSpec_skip S X R cur]

theorem splitSpec_match (S : List Char) (hS : S ≠ []) (R cur : List Char) :
    splitSpec S (S ++ R) 0 cur = cur :: splitSpec S R 0 [] := by
  cases S with
  | nil => exact absurd rfl hS
  | cons x S' =>
    rw [List.cons_append, splitSpec]
    have : (x :: S').isPrefixOf (x :: (S' ++ R)) = true := by
      rw [List.isPrefixOf_iff_prefix]; exact ⟨R, rfl⟩
    rw [this]; simp only [if_true]
    have := splitSpec_skip (x :: S') S' R []
    simp only [List.length_cons, Nat.add_sub_cancel]
    rw [this]

theorem isPrefixOf_mismatch {c c' : Char} (h : c ≠ c') : ∀ (M S2 R : List Char),
    (M ++ c' :: S2).isPrefixOf (M ++ c :: R) = false
  | [], S2, R => by
    simp only [List.nil_append, List.isPrefixOf]
    have : (c' == c) = false := by simpa using fun e => h e.symm
    rw [this]; rfl
  | m :: M, S2, R => by
    simp only [List.cons_append, List.isPrefixOf, beq_self_eq_true, Bool.true_and]
    exact isPrefixOf_mismatch h M S2 R

/-- `String.splitOnAux` refines `splitSpec` in every state where `M`, a proper prefix of the separator, has
been matched after the current piece `Cur`, with `n` characters to go from the start of `M` -/
def SplitOK (s sep : String) (n : Nat) : Prop :=
  ∀ (Bp Cur M S2 R : List Char) (r : List String), (M ++ R).length = n → S2 ≠ [] →
    s.toList = Bp ++ Cur ++ M ++ R → sep.toList = M ++ S2 →
    String.splitOnAux s sep ⟨ulen Bp⟩ ⟨ulen (Bp ++ Cur ++ M)⟩ ⟨ulen M⟩ r =
      r.reverse ++ (splitSpec sep.toList (M ++ R) 0 Cur).map String.ofList

theorem unoffsetBy_ulen (P X : List Char) : (⟨ulen (P ++ X)⟩ : String.Pos.Raw).unoffsetBy ⟨ulen X⟩ = ⟨ulen P⟩ := by
  rw [ulen_append]; exact congrArg String.Pos.Raw.mk (Nat.add_sub_cancel ..)

theorem splitOnAux_spec (s sep : String) (n : Nat) : SplitOK s sep n := by
  -- outer induction on the characters to go from the start of the partial match, inner on what is left of the separator
  induction n using Nat.strongRecOn with | _ n IH => ?_
  intro Bp Cur M S2
  induction S2 generalizing Bp Cur M with
  | nil => intro _ _ _ h; exact absurd rfl h
  | cons c' S2 ih2 =>
    intro R r hn _ hs hsep
    cases R with
    | nil =>
      -- end of input: the last piece is `Cur ++ M`, the partial match included
      rw [List.append_nil] at hs
      rw [String.splitOnAux, if_pos (atEnd_end s _ hs)]
      have he := extract_at s Bp (Cur ++ M) [] (by rw [hs]; simp)
      rw [← List.append_assoc] at he
      rw [he, List.append_nil, splitSpec_short _ M Cur (by rw [hsep]; simp)]
      simp
    | cons c R =>
      rw [String.splitOnAux, if_neg (by rw [atEnd_mid s _ R c hs]; simp)]
      rw [get_at s _ R c hs, get_at sep M S2 c' hsep]
      by_cases hc : c = c'
      · -- the character matches: the separator is complete and a piece ends (`IH`), or the match grows (`ih2`)
        subst hc
        rw [if_pos (by simp), next_at s _ R c hs, next_at sep M S2 c hsep]
        cases S2 with
        | nil =>
          rw [if_pos (atEnd_end sep _ (by rw [hsep]))]
          have hu := unoffsetBy_ulen (Bp ++ Cur) (M ++ [c])
          rw [← List.append_assoc] at hu
          rw [hu, extract_at s Bp Cur (M ++ c :: R) (by rw [hs]; simp)]
          have ih := IH _ (by rw [← hn]; simp; omega) (Bp ++ Cur ++ M ++ [c]) [] [] sep.toList R (String.ofList Cur :: r)
            rfl (by rw [hsep]; simp) (by rw [hs]; simp) rfl
          simp only [List.append_nil, List.nil_append, ulen] at ih
          rw [show (0 : String.Pos.Raw) = ⟨0⟩ from rfl, ih]
          have hm := splitSpec_match sep.toList (by rw [hsep]; simp) R Cur
          rw [show M ++ c :: R = sep.toList ++ R by rw [hsep]; simp, hm]
          simp
        | cons c'' S2 =>
          rw [if_neg (by rw [atEnd_mid sep (M ++ [c]) S2 c'' (by rw [hsep]; simp)]; simp)]
          have ih := ih2 Bp Cur (M ++ [c]) R r (by rw [← hn]; simp) (by simp) (by rw [hs]; simp) (by rw [hsep]; simp)
          rw [← List.append_assoc] at ih
          rw [ih]; simp
      · -- mismatch: the search restarts one character past the start of the partial match; that character `x`
        -- joins the current piece (`IH`)
        rw [if_neg (by simpa using hc)]
        obtain ⟨x, rest, hx⟩ : ∃ x rest, M ++ c :: R = x :: rest := by
          cases M with
          | nil => exact ⟨c, R, rfl⟩
          | cons m M => exact ⟨m, M ++ c :: R, rfl⟩
        rw [unoffsetBy_ulen, next_at s (Bp ++ Cur) rest x (by rw [hs, ← hx]; simp)]
        have ih := IH _ (by rw [← hn, hx]; simp) Bp (Cur ++ [x]) [] sep.toList rest r
          rfl (by rw [hsep]; simp) (by rw [hs]; simp; rw [hx]) rfl
        simp only [List.append_nil, List.nil_append, ulen] at ih
        rw [← List.append_assoc] at ih
        rw [show (0 : String.Pos.Raw) = ⟨0⟩ from rfl, ih, hx,
          splitSpec_nomatch _ x rest Cur (by rw [← hx, hsep]; exact isPrefixOf_mismatch hc M S2 R)]

theorem splitOn_spec (s sep : String) (hsep : sep.toList ≠ []) :
    s.splitOn sep = (splitSpec sep.toList s.toList 0 []).map String.ofList := by
  have hne : sep ≠ "" := fun h => hsep (by rw [h]; rfl)
  rw [String.splitOn, if_neg (by simpa using hne)]
  have := splitOnAux_spec s sep _ [] [] [] sep.toList s.toList [] rfl hsep rfl rfl
  simp only [List.append_nil, List.nil_append, ulen, List.reverse_nil] at this
  exact this

theorem splitSpec_single_notin (x : Char) (Y Z cur : List Char) (h : x ∉ Y) :
    splitSpec [x] (Y ++ Z) 0 cur = splitSpec [x] Z 0 (cur ++ Y) := by
  apply splitSpec_noocc
  intro q hq hqs
  cases q with
  | nil => exact absurd rfl hq
  | cons c q =>
    have hc : c ≠ x := fun e => h (hqs.subset (e ▸ List.mem_cons_self))
    simpa [List.isPrefixOf] using fun e => hc e.symm

theorem splitSpec_head (S : List Char) : ∀ (Z cur : List Char), ∃ w tl, splitSpec S Z 0 cur = (cur ++ w) :: tl
  | [], cur => ⟨[], [], by simp [splitSpec]⟩
  | c :: Z, cur => by
    rw [splitSpec]
    split
    · exact ⟨[], splitSpec S Z (S.length - 1) [], by simp⟩
    · obtain ⟨w, tl, h⟩ := splitSpec_head S Z (cur ++ [c])
      exact ⟨c :: w, tl, by rw [h]; simp⟩

theorem takeWhile_ne_sep {x : Char} {a : List Char} (h : x ∉ a) (r : List Char) : (a ++ x :: r).takeWhile (· != x) = a := by
  have : ∀ b ∈ a, (b != x) = true := fun b hb => by simpa using fun e : b = x => h (e ▸ hb)
  rw [List.takeWhile_append_of_pos this, List.takeWhile_cons_of_neg (by simp), List.append_nil]

/-- if `a ++ [x]` is a prefix of `b ++ x :: post` and `x` occurs neither in `a` nor in `b`, then `a = b`:
both are what precedes the first `x` -/
theorem prefix_sep_unique {x : Char} {a b post : List Char} (ha : x ∉ a) (hb : x ∉ b)
    (h : (a ++ [x]) <+: (b ++ x :: post)) : a = b := by
  obtain ⟨t, ht⟩ := h
  have := congrArg (List.takeWhile (· != x)) ht
  rwa [List.append_assoc, List.singleton_append, takeWhile_ne_sep ha, takeWhile_ne_sep hb] at this

/-- a separator whose first character does not recur has no border: an occurrence that begins in a
non-empty `q` put in front of the separator lies within `q` -/
theorem prefix_of_noborder {a : Char} {T : List Char} (ha : a ∉ T) {q X : List Char} (hq : q ≠ [])
    (h : (a :: T) <+: q ++ (a :: T ++ X)) : (a :: T) <+: q := by
  by_cases hl : (a :: T).length ≤ q.length
  · exact List.prefix_of_prefix_length_le h (List.prefix_append q _) hl
  · exfalso
    obtain ⟨u, hu⟩ := List.prefix_of_prefix_length_le (List.prefix_append q _) h (by omega)
    have hb : u <+: a :: T ++ X := (List.prefix_append_right_inj q).mp (hu ▸ h)
    match q, u, hq with
    | _ :: _, [], _ => rw [List.append_nil] at hu; rw [hu] at hl; exact hl (Nat.le_refl _)
    | _ :: q, c :: u, _ =>
      obtain ⟨_, hb⟩ := hb
      simp only [List.cons_append, List.cons.injEq] at hu hb
      exact ha (hu.2 ▸ hb.1 ▸ List.mem_append_right q List.mem_cons_self)

end PQ.Parse
