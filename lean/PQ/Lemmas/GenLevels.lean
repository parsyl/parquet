import PQ.Model.GenLevels
/-!
# The generator's level arithmetic agrees with Dremel's, for every chain
-/
namespace PQ.GenLevels
open PQ

@[simp] theorem beq_req_opt : (Rep.req == Rep.opt) = false := rfl
@[simp] theorem beq_req_rpt : (Rep.req == Rep.rpt) = false := rfl
@[simp] theorem beq_opt_opt : (Rep.opt == Rep.opt) = true := rfl
@[simp] theorem beq_opt_rpt : (Rep.opt == Rep.rpt) = false := rfl
@[simp] theorem beq_rpt_opt : (Rep.rpt == Rep.opt) = false := rfl
@[simp] theorem beq_rpt_rpt : (Rep.rpt == Rep.rpt) = true := rfl
@[simp] theorem counts_req : counts .req = false := rfl
@[simp] theorem counts_opt : counts .opt = true := rfl
@[simp] theorem counts_rpt : counts .rpt = true := rfl

theorem maxRep_cons (r : Rep) (ts : List Rep) :
    maxRep (r :: ts) = maxRep ts + if r == .rpt then 1 else 0 := by cases r <;> rfl

theorem maxDef_cons (r : Rep) (ts : List Rep) :
    maxDef (r :: ts) = maxDef ts + if counts r then 1 else 0 := by cases r <;> rfl

theorem not_rpt_of_not_counts {r : Rep} (h : ¬ counts r = true) : (r == .rpt) = false := by
  cases r <;> first | rfl | exact absurd rfl h

theorem foldl_maxDef (l : List Rep) : ∀ a,
    l.foldl (fun out r => if counts r then out + 1 else out) a = a + maxDef l := by
  induction l with
  | nil => exact fun _ => rfl
  | cons r l ih => intro a; rw [List.foldl_cons, ih, maxDef_cons]; split <;> omega

theorem foldl_maxRep (l : List Rep) : ∀ a,
    l.foldl (fun out r => if r == .rpt then out + 1 else out) a = a + maxRep l := by
  induction l with
  | nil => exact fun _ => rfl
  | cons r l ih => intro a; rw [List.foldl_cons, ih, maxRep_cons]; split <;> omega

/-- **`Field.MaxDef` is the Dremel maximum definition level of the column** -/
theorem gMaxDef_eq (rts : List Rep) : gMaxDef rts = maxDef rts := by
  rw [gMaxDef, foldl_maxDef, Nat.zero_add]; rfl

/-- **`Field.MaxRep` is the Dremel maximum repetition level of the column** -/
theorem gMaxRep_eq (rts : List Rep) : gMaxRep rts = maxRep rts := by
  rw [gMaxRep, foldl_maxRep, Nat.zero_add]; rfl

/-- `Field.IsRep(rep)`: the column's maximum repetition level is `rep` -/
theorem gIsRep_eq (rts : List Rep) (rep : Nat) : gIsRep rts rep = (maxRep rts == rep) := by
  unfold gIsRep; rw [gMaxRep_eq]

/-! The three loops `MaxRepForDef`, `DefIndex`, `NilField` all walk the chain up to the `k`-th field
that is not required, which is how `beforeDef k` recurses: each is proved by `beforeDef.induct`
(nothing left to find; chain exhausted; the field found; a counting field passed; a required field
passed), generalised over the loop's accumulators. -/

/-- the loop of `MaxRepForDef` with `k ≥ 1` counting fields still to go: `defs` counting fields have been passed (the
target is `defs + k`), `out` repeated ones; the loop adds the repeated fields among those it still passes -/
theorem maxRepForDefGo_spec (k : Nat) (l : List Rep) : ∀ (out defs : Nat), 0 < k →
    maxRepForDefGo (defs + k) l out defs = out + maxRep (beforeDef k l) := by
  induction k, l using beforeDef.induct with
  | case1 => intro _ _ h; omega
  | case2 => intro _ _ _; simp [maxRepForDefGo, beforeDef, maxRep]
  | case3 r ts hc => intro out defs _; simp [maxRepForDefGo, beforeDef, maxRep, hc]
  | case4 d r ts hc hd ih =>
    intro out defs _
    have := ih (if r == .rpt then out + 1 else out) (defs + 1) (by omega)
    rw [Nat.add_right_comm, Nat.add_assoc] at this
    simp [maxRepForDefGo, beforeDef, hc, hd, this, maxRep_cons]
    split <;> omega
  | case5 d r ts hc ih =>
    intro out defs _
    simp [maxRepForDefGo, beforeDef, hc, ih out defs, maxRep_cons, not_rpt_of_not_counts hc]

/-- **`Field.MaxRepForDef(d)`, `d ≥ 1`: the number of repeated fields strictly above the field that carries
definition level `d`** (all of them when `d` exceeds the maximum definition level) -/
theorem gMaxRepForDef_spec (rts : List Rep) (d : Nat) (h : 1 ≤ d) :
    gMaxRepForDef rts d = maxRep (beforeDef d rts) := by
  have := maxRepForDefGo_spec d (chain rts) 0 0 h
  rw [Nat.zero_add, Nat.zero_add] at this
  obtain ⟨k, rfl⟩ : ∃ k, d = k + 1 := ⟨d - 1, by omega⟩
  rw [gMaxRepForDef, this]; rfl

/-- `Field.MaxRepForDef(0)` is 0 (the loop returns at the root) -/
theorem gMaxRepForDef_zero (rts : List Rep) : gMaxRepForDef rts 0 = 0 := by
  simp [gMaxRepForDef, chain, maxRepForDefGo]

theorem maxRep_beforeDef_le (d : Nat) (l : List Rep) : maxRep (beforeDef d l) ≤ maxRep l := by
  induction d, l using beforeDef.induct with
  | case1 => simp [beforeDef, maxRep]
  | case2 => simp [beforeDef]
  | case3 r ts hc => simp [beforeDef, hc, maxRep]
  | case4 d r ts hc hd ih => simp only [beforeDef, hc, hd, if_true, if_false, maxRep_cons]; omega
  | case5 d r ts hc ih =>
    simp only [beforeDef, hc, Bool.false_eq_true, if_false, maxRep_cons]; omega

/-- it never exceeds the column's maximum repetition level -/
theorem gMaxRepForDef_le (rts : List Rep) (d : Nat) : gMaxRepForDef rts d ≤ maxRep rts := by
  cases d with
  | zero => rw [gMaxRepForDef_zero]; exact Nat.zero_le _
  | succ d => rw [gMaxRepForDef_spec rts _ (by omega)]; exact maxRep_beforeDef_le _ _

theorem beforeDef_all (d : Nat) (l : List Rep) : maxDef l < d → beforeDef d l = l := by
  induction d, l using beforeDef.induct with
  | case1 => intro h; omega
  | case2 => intro _; simp [beforeDef]
  | case3 r ts hc => intro h; rw [maxDef_cons, if_pos hc] at h; omega
  | case4 d r ts hc hd ih =>
    intro h; rw [maxDef_cons, if_pos hc] at h
    simp only [beforeDef, hc, hd, if_true, if_false, ih (by omega)]
  | case5 d r ts hc ih =>
    intro h; rw [maxDef_cons, if_neg hc] at h
    simp only [beforeDef, hc, Bool.false_eq_true, if_false, ih (by omega)]

theorem gMaxRepForDef_beyond (rts : List Rep) (d : Nat) (h : maxDef rts < d) : gMaxRepForDef rts d = maxRep rts := by
  rw [gMaxRepForDef_spec rts d (by omega), beforeDef_all d rts h]

/-- the loop of `DefIndex` with `k ≥ 1` counting fields still to go, all of them present: `count` counting fields have
been passed (the target is `count + k`), `i` fields in all; the loop adds the fields it still passes -/
theorem defIndexGo_spec (k : Nat) (l : List Rep) : ∀ (count i : Nat), 0 < k → k ≤ maxDef l →
    defIndexGo (count + k) l count i = i + (beforeDef k l).length := by
  induction k, l using beforeDef.induct with
  | case1 => intro _ _ h; omega
  | case2 => intro _ _ h h2; simp [maxDef] at h2; omega
  | case3 r ts hc => intro count i _ _; simp [defIndexGo, beforeDef, hc]
  | case4 d r ts hc hd ih =>
    intro count i _ h2
    rw [maxDef_cons, if_pos hc] at h2
    have := ih (count + 1) (i + 1) (by omega) (by omega)
    rw [Nat.add_right_comm, Nat.add_assoc] at this
    simp [defIndexGo, beforeDef, hc, hd, this]
    omega
  | case5 d r ts hc ih =>
    intro count i _ h2
    rw [maxDef_cons, if_neg hc] at h2
    simp [defIndexGo, beforeDef, hc, ih count (i + 1) (by omega) h2]
    omega

/-- **`Field.DefIndex(d)`, `1 ≤ d ≤ MaxDef`: the position (in the chain that starts with the root) of the field
that carries definition level `d`** -/
theorem gDefIndex_spec (rts : List Rep) (d : Nat) (h1 : 1 ≤ d) (h2 : d ≤ maxDef rts) :
    gDefIndex rts d = (beforeDef d rts).length + 1 := by
  have := defIndexGo_spec d (chain rts) 0 0 h1 h2
  rw [Nat.zero_add, Nat.zero_add] at this
  obtain ⟨k, rfl⟩ : ∃ k, d = k + 1 := ⟨d - 1, by omega⟩
  rw [gDefIndex, this]; rfl

/-- one step of `NilField` when fields that count are left below (so the chain goes on) -/
theorem nilFieldGo_cons (n : Nat) (r : Rep) {rs : List Rep} (h : 0 < maxDef rs) (count reps j : Nat)
    (o : Rep) :
    nilFieldGo n (r :: rs) count reps j o =
      if (if counts r then count + 1 else count) > n then (j, r, if r == .rpt then reps + 1 else reps)
      else nilFieldGo n rs (if counts r then count + 1 else count)
        (if r == .rpt then reps + 1 else reps) (j + 1) r := by
  cases rs with
  | nil => exact absurd h (Nat.lt_irrefl 0)
  | cons _ _ => rfl

/-- the loop of `NilField` with `k ≥ 1` counting fields still to go (`n + 1 = count + k`): `count` counting fields have
been passed, `reps` repeated ones, `j` in all; it stops at the field that carries definition level `n + 1`, which it
counts among the repeated ones if it is one -/
theorem nilFieldGo_spec (n k : Nat) (l : List Rep) : ∀ (count reps j : Nat) (o : Rep), 0 < k →
    k ≤ maxDef l → n + 1 = count + k →
    nilFieldGo n l count reps j o =
      (j + (beforeDef k l).length, (l.drop (beforeDef k l).length).headD .req,
       reps + maxRep (l.take ((beforeDef k l).length + 1))) := by
  induction k, l using beforeDef.induct with
  | case1 => intro _ _ _ _ h; omega
  | case2 => intro _ _ _ _ h h2; simp [maxDef] at h2; omega
  | case3 r ts hc =>
    intro count reps j o _ _ hn
    have : n < count + 1 := by omega
    cases hr : r == .rpt <;> simp [nilFieldGo, beforeDef, hc, maxRep_cons, maxRep, this, hr]
  | case4 d r ts hc hd ih =>
    intro count reps j o _ h2 hn
    rw [maxDef_cons, if_pos hc] at h2
    have hd0 : 0 < d := Nat.pos_of_ne_zero hd
    have hd2 : d ≤ maxDef ts := Nat.le_of_succ_le_succ h2
    rw [nilFieldGo_cons n r (Nat.lt_of_lt_of_le hd0 hd2), if_pos hc, if_neg (by omega),
      ih _ _ _ _ hd0 hd2 (by omega)]
    cases hr : r == .rpt <;> simp [beforeDef, hc, hd, maxRep_cons, hr] <;> omega
  | case5 d r ts hc ih =>
    intro count reps j o _ h2 hn
    rw [maxDef_cons, if_neg hc] at h2
    rw [nilFieldGo_cons n r (by omega), if_neg hc, if_neg (by omega), ih _ _ _ _ (by omega) h2 hn]
    simp [beforeDef, hc, maxRep_cons, not_rpt_of_not_counts hc]
    omega

/-- **`Field.NilField(n)`, `n < MaxDef`: the field that carries definition level `n + 1`** — its index in
`RepetitionTypes()`, its repetition type, and the number of repeated fields down to and including it -/
theorem gNilField_spec (rts : List Rep) (n : Nat) (h : n < maxDef rts) :
    gNilField rts n = ((beforeDef (n + 1) rts).length, (rts.drop (beforeDef (n + 1) rts).length).headD .req,
                       maxRep (rts.take ((beforeDef (n + 1) rts).length + 1))) := by
  rw [gNilField, nilFieldGo_spec n (n + 1) rts 0 0 0 .req (by omega) (by omega) (by omega),
    Nat.zero_add, Nat.zero_add]

/-- non-vacuity: Document.Names.Language.Code (`[rpt, rpt, req]`) -/
example : gMaxDef [.rpt, .rpt, .req] = 2 ∧ gMaxRep [.rpt, .rpt, .req] = 2 ∧ gMaxRepForDef [.rpt, .rpt, .req] 2 = 1 ∧
    gDefIndex [.rpt, .rpt, .req] 2 = 2 ∧ gNilField [.rpt, .rpt, .req] 1 = (1, .rpt, 2) := by decide

end PQ.GenLevels
