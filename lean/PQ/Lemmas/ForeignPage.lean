import PQ.Props.C04
import PQ.Lemmas.ReaderChunk
import PQ.Lemmas.FileRT
/-!
# The library's reader on the pages and column chunks of the independent spec writer (C04)

`specPageBytes` (PQ/Model/SpecWriter.lean; in parts: Lemmas/SpecPage.lean) writes one page making arbitrary
legal choices (run segmentation of both level streams, padding value, codec, statistics or not, unknown extra
thrift fields or not).  This file shows that such a page is one the reader's page loops handle (`spGPage_okFor`,
an instance of `GPage.OKFor`, Lemmas/ReaderChunk.lean), hence that the typed chunk read (`readChunk`) recovers
exactly the entries, for every choice stream and every page split (`readChunk_spChunk`, `readChunk_spSplit`).
-/
namespace PQ
open PQ.Thrift

/-- what `PageHeader.Read` makes of the header; `dl`, `rl`: the labels of the definition- and
repetition-level encodings; `so`: the statistics, if any -/
def spPH (u z n dl rl : Nat) (so : Option (List (Nat × TVal))) : PHdr :=
  { ty := 0, uncompressed := (u : Nat), compressed := (z : Nat), dph := some ((n : Nat), 0, (dl : Nat), (rl : Nat), so),
    hasDict := false, hasIndex := false, hasV2 := false }

/-- … of a data page header with arbitrary encoding ids -/
def muPH (u z n ve dl rl : Nat) (so : Option (List (Nat × TVal))) : PHdr :=
  { ty := 0, uncompressed := (u : Nat), compressed := (z : Nat), dph := some ((n : Nat), (ve : Nat), (dl : Nat), (rl : Nat), so),
    hasDict := false, hasIndex := false, hasV2 := false }

/-- the statistics `PageHeader.Read` finds in a page header of the spec writer -/
def spStatsOpt (cfg : SWCfg) (c : Col) (es : PageEntries) : Option (List (Nat × TVal)) :=
  if cfg.withStats then some (statsFields (cfg.pageStatsResult c es)) else none

theorem spExtra_ids (cfg : SWCfg) : ∀ p ∈ spExtra cfg, p.1 = 100 := by
  unfold spExtra extraField
  split <;> simp

/-- **`PageHeader.Read` on a header of the spec writer**: type, sizes, `num_values`, encodings and statistics
are found whether or not unknown fields (id 100, in both the page header and the data page header) are there
(`C04.page_header_unknown_fields`, `C04.data_page_header_unknown_fields`). -/
theorem decPHdr_muHdr (cfg : SWCfg) (c : Col) (es : PageEntries) (u z ve de re : Nat) :
    decPHdr (muHdr cfg c es u z ve de re) = some (muPH u z es.length ve de re (spStatsOpt cfg c es)) := by
  have h1 := C04.page_header_unknown_fields [(1, .int 5 0), (2, .int 5 u), (3, .int 5 z), (5, muDph cfg c es ve de re)]
    (spExtra cfg) [] (fun p hp => by rw [spExtra_ids cfg p hp]; decide)
  have h2 := C04.data_page_header_unknown_fields [(1, .int 5 0), (2, .int 5 u), (3, .int 5 z)] []
    ([(1, .int 5 es.length), (2, .int 5 (ve : Nat)), (3, .int 5 (de : Nat)), (4, .int 5 (re : Nat))] ++ spStats cfg c es)
    (spExtra cfg) [] (fun p hp => by rw [spExtra_ids cfg p hp]; decide)
  simp only [List.append_nil] at h1 h2
  rw [muHdr, h1, muDph]
  refine h2.trans ?_
  cases hs : cfg.withStats <;>
    simp [spStats, spStatsOpt, hs, decPHdr, muPH, TVal.fieldsOf, getI32, getStruct, List.lookup, statsT_eq]

theorem decPHdr_spHdr (cfg : SWCfg) (c : Col) (es : PageEntries) (u z : Nat) :
    decPHdr (spHdr cfg c es u z) = some (spPH u z es.length (cfg.defLabel c) (cfg.repLabel c) (spStatsOpt cfg c es)) :=
  decPHdr_muHdr cfg c es u z 0 _ _

/-- **`RequiredField.DoRead`'s check ignores both level-encoding labels** -/
theorem checkPage_spPH_required (u z n dl rl : Nat) (so : Option (List (Nat × TVal))) :
    checkPage (spPH u z n dl rl so) false false = true := by
  simp [checkPage, spPH]

/-- **`OptionalField.DoRead`'s check on a non-required column**: the definition label is RLE; the repetition
label is RLE when the column is repeated and is not looked at otherwise -/
theorem checkPage_spPH_optional (cfg : SWCfg) (c : Col) (hreq : c.isRequired = false) (u z n : Nat)
    (so : Option (List (Nat × TVal))) :
    checkPage (spPH u z n (cfg.defLabel c) (cfg.repLabel c) so) true (decide (c.maxRep > 0)) = true := by
  rw [cfg.defLabel_of_not_required c hreq]
  by_cases hrep : c.maxRep > 0
  · rw [cfg.repLabel_of_repeated c hrep]
    simp [checkPage, spPH]
  · rw [decide_eq_false hrep]
    simp [checkPage, spPH]

theorem numValuesOf_spPH (u z n dl rl : Nat) (so : Option (List (Nat × TVal))) : numValuesOf (spPH u z n dl rl so) = .ok (n : Int) := rfl

/-- what the reader's decompressors must do on one payload: codec 0 stores it as it is; 1 (snappy) and
2 (gzip) must be inverted by the supplied decoders -/
def SpCodecOK (dc : Decomp) (codec : Nat) (compress : Bytes → Bytes) (raw : Bytes) : Prop :=
  codec = 0 ∨ (codec = 1 ∧ dc.snappy (compress raw) = some raw) ∨ (codec = 2 ∧ dc.gzip (compress raw) = some raw)

theorem SpCodecOK.stored {dc : Decomp} {codec : Nat} {compress : Bytes → Bytes} {raw : Bytes}
    (h : SpCodecOK dc codec compress raw) : StoredAs dc (codec : Int) (spComp codec compress raw) raw := by
  unfold spComp
  rcases h with rfl | ⟨rfl, hs⟩ | ⟨rfl, hs⟩
  · exact .inl ⟨rfl, if_pos rfl⟩
  · exact .inr (.inl ⟨rfl, by rw [if_neg (by omega)]; exact hs⟩)
  · exact .inr (.inr ⟨rfl, by rw [if_neg (by omega)]; exact hs⟩)

/-- header bytes and stored payload of the page holding `es`, written with the choices `cs` -/
def spPage (cfg : SWCfg) (c : Col) (codec : Nat) (compress : Bytes → Bytes) (cs : Choices) (es : PageEntries) : Bytes × Bytes :=
  ((spHdr cfg c es (spRaw cfg c cs es).length (spComp codec compress (spRaw cfg c cs es)).length).enc,
   spComp codec compress (spRaw cfg c cs es))

theorem specPageBytes_spPage (cfg : SWCfg) (c : Col) (codec : Nat) (compress : Bytes → Bytes) (cs : Choices)
    (es : PageEntries) :
    specPageBytes cfg c codec compress .none cs es =
      ((spPage cfg c codec compress cs es).1 ++ (spPage cfg c codec compress cs es).2, spRaw cfg c cs es,
       (spPage cfg c codec compress cs es).2.length, (spDefSeg cfg c cs es).2) := rfl

theorem spPage_hdr_pos (cfg : SWCfg) (c : Col) (codec : Nat) (compress : Bytes → Bytes) (cs : Choices) (es : PageEntries) :
    1 ≤ (spPage cfg c codec compress cs es).1.length := enc_length_pos _

/-- the decoded header of the page holding `es`, written with the choices `cs`: uncompressed length,
stored length, `num_values`, the labels of the level encodings (`SWCfg.defLabel`, `SWCfg.repLabel`: RLE, or
BIT_PACKED for levels the column does not have when `cfg.mrLabels`), statistics -/
def spPageHdr (cfg : SWCfg) (c : Col) (codec : Nat) (compress : Bytes → Bytes) (cs : Choices) (es : PageEntries) : PHdr :=
  spPH (spRaw cfg c cs es).length (spComp codec compress (spRaw cfg c cs es)).length es.length (cfg.defLabel c) (cfg.repLabel c)
    (spStatsOpt cfg c es)

def spGPage (cfg : SWCfg) (c : Col) (codec : Nat) (compress : Bytes → Bytes) (cs : Choices) (es : PageEntries) : GPage :=
  { hdr := (spPage cfg c codec compress cs es).1, body := (spPage cfg c codec compress cs es).2,
    ph := spPageHdr cfg c codec compress cs es, raw := spRaw cfg c cs es, es := es }

theorem spGPage_walks (cfg : SWCfg) (c : Col) (codec : Nat) (compress : Bytes → Bytes) (cs : Choices) (es : PageEntries) :
    (spGPage cfg c codec compress cs es).Walks where
  read := fun _ _ _ h =>
    ⟨_, readStruct_at _ (spHdr_ok ..) h, decPHdr_spHdr cfg c es _ _⟩
  pos := spPage_hdr_pos cfg c codec compress cs es
  compressed := rfl
  dph := ⟨_, _, _, _, rfl⟩

/-- `len`: whatever the segmentation, a level section then stays below the `2 ^ 31` bytes of its `int32` length
prefix (`segment_size`, Segment.lean: at most `6 · (n + 7)` bytes) -/
structure SpPageOK (c : Col) (es : PageEntries) : Prop where
  wf : WFPage c es
  len : es.length + 8 ≤ 2 ^ 28
  ne : es ≠ []

theorem spGPage_levels (cfg : SWCfg) (c : Col) (cs : Choices) (es : PageEntries) (hreq : c.isRequired = false)
    (hwf : WFPage c es) (hlen : es.length + 8 ≤ 2 ^ 28) : LevelsRead c es (spRaw cfg c cs es) := by
  obtain ⟨hr, ⟨p2, _, hd⟩, e3, hle⟩ := spRaw_levels cfg c cs es hreq (fun hrep => (hwf.repLevels hreq hrep).width)
    (hwf.defLevels hreq).width (fun e he => ⟨fun _ => (hwf.opt hreq e he).2.1, (hwf.opt hreq e he).1⟩) hlen
  refine ⟨spRepLen cfg c cs es, spDefLen cfg c cs es, ?_, ⟨p2, _, hd⟩, e3, hle⟩
  by_cases hrep : c.maxRep > 0
  · obtain ⟨p1, _, hr'⟩ := hr hrep
    rw [if_pos hrep]
    exact ⟨p1, _, hr'⟩
  · rw [if_neg hrep]
    exact spRepLen_zero cfg c cs es hrep

/-- **The reader's per-page work on a page of the spec writer** (any segmentation, codec 0/1/2, statistics
and unknown fields present or not): the header is read and decoded, `checkPage` accepts it, `pageData` returns the
uncompressed payload, the level sections of which `readLevels` decodes to the entries' levels. -/
theorem spGPage_okFor (dc : Decomp) (cfg : SWCfg) (c : Col) (codec : Nat) (compress : Bytes → Bytes) (cs : Choices)
    (es : PageEntries) (hk : SpCodecOK dc codec compress (spRaw cfg c cs es)) (h : SpPageOK c es) :
    (spGPage cfg c codec compress cs es).OKFor dc c (codec : Int) where
  toWalks := spGPage_walks cfg c codec compress cs es
  uncompressed := rfl
  stored := hk.stored
  wf := h.wf
  ne := h.ne
  req := fun hreq => ⟨checkPage_spPH_required _ _ _ _ _ _, spRaw_required cfg c cs es hreq⟩
  opt := fun hreq => ⟨checkPage_spPH_optional cfg c hreq _ _ _ _, spGPage_levels cfg c cs es hreq h.wf h.len⟩

/-- the bytes of consecutive pages (each written with the choices its predecessors left) and the choices
left at the end: the spec writer's `emit` without mutation -/
def spEmit (cfg : SWCfg) (c : Col) (codec : Nat) (compress : Bytes → Bytes) : List PageEntries → Choices → Bytes × Choices
  | [], cs => ([], cs)
  | p :: ps, cs =>
    ((spPage cfg c codec compress cs p).1 ++ (spPage cfg c codec compress cs p).2 ++
        (spEmit cfg c codec compress ps (spDefSeg cfg c cs p).2).1,
     (spEmit cfg c codec compress ps (spDefSeg cfg c cs p).2).2)

def spGPages (cfg : SWCfg) (c : Col) (codec : Nat) (compress : Bytes → Bytes) : List PageEntries → Choices → List GPage
  | [], _ => []
  | p :: ps, cs => spGPage cfg c codec compress cs p :: spGPages cfg c codec compress ps (spDefSeg cfg c cs p).2

theorem spGPages_bytes (cfg : SWCfg) (c : Col) (codec : Nat) (compress : Bytes → Bytes) :
    ∀ (ess : List PageEntries) (cs : Choices),
      pagesBytes (spGPages cfg c codec compress ess cs) = (spEmit cfg c codec compress ess cs).1 ∧
      (spGPages cfg c codec compress ess cs).map (·.es) = ess
  | [], _ => ⟨rfl, rfl⟩
  | p :: ps, cs => by
    obtain ⟨h1, h2⟩ := spGPages_bytes cfg c codec compress ps (spDefSeg cfg c cs p).2
    constructor
    · rw [spGPages, pagesBytes_cons, h1, spEmit, List.append_assoc]; rfl
    · rw [spGPages, List.map_cons, h2]; rfl

theorem spGPages_lengths (cfg : SWCfg) (c : Col) (codec : Nat) (compress : Bytes → Bytes) (ess : List PageEntries) (cs : Choices) :
    (spGPages cfg c codec compress ess cs).map (·.es.length) = ess.map List.length := by
  conv => rhs; rw [← (spGPages_bytes cfg c codec compress ess cs).2, List.map_map]
  rfl

theorem spGPages_okFor (dc : Decomp) (cfg : SWCfg) (c : Col) (codec : Nat) (compress : Bytes → Bytes)
    (hk : ∀ raw, SpCodecOK dc codec compress raw) :
    ∀ (ess : List PageEntries) (cs : Choices), (∀ es ∈ ess, SpPageOK c es) →
      ∀ p ∈ spGPages cfg c codec compress ess cs, p.OKFor dc c (codec : Int)
  | [], _, _, p, hp => by simp [spGPages] at hp
  | es :: ess, cs, hg, p, hp => by
    rw [spGPages] at hp
    rcases List.mem_cons.mp hp with rfl | hp
    · exact spGPage_okFor dc cfg c codec compress cs es (hk _) (hg es List.mem_cons_self)
    · exact spGPages_okFor dc cfg c codec compress hk ess _ (fun e he => hg e (List.mem_cons_of_mem _ he)) p hp

theorem spEmit_nil (cfg : SWCfg) (c : Col) (codec : Nat) (compress : Bytes → Bytes) (cs : Choices) :
    spEmit cfg c codec compress [] cs = ([], cs) := rfl

theorem spEmit_cons (cfg : SWCfg) (c : Col) (codec : Nat) (compress : Bytes → Bytes) (p : PageEntries)
    (ps : List PageEntries) (cs : Choices) :
    (spEmit cfg c codec compress (p :: ps) cs).1 =
      (spPage cfg c codec compress cs p).1 ++ (spPage cfg c codec compress cs p).2 ++
        (spEmit cfg c codec compress ps (spDefSeg cfg c cs p).2).1 := rfl

/-- the `PageMeta` (`Metadata.Pages()`) of the chunk the spec writer emits for the pages `ess` -/
def spPageMeta (cfg : SWCfg) (c : Col) (codec : Nat) (compress : Bytes → Bytes) (ess : List PageEntries) (cs : Choices) : PageMeta :=
  { n := (((ess.map List.length).sum : Nat) : Int), size := (((spEmit cfg c codec compress ess cs).1.length : Nat) : Int),
    codec := ((codec : Nat) : Int) }

theorem readChunk_spChunk (dc : Decomp) (cfg : SWCfg) (c : Col) (codec : Nat) (compress : Bytes → Bytes)
    (hk : ∀ raw, SpCodecOK dc codec compress raw) (ess : List PageEntries) (cs : Choices) (hg : ∀ es ∈ ess, SpPageOK c es) :
    ChunkReads dc { col := c, pg := spPageMeta cfg c codec compress ess cs, bytes := (spEmit cfg c codec compress ess cs).1,
                    es := ess.flatten } := by
  obtain ⟨hb, he⟩ := spGPages_bytes cfg c codec compress ess cs
  have := readChunk_gen dc c (spPageMeta cfg c codec compress ess cs) (spGPages cfg c codec compress ess cs)
    (spGPages_okFor dc cfg c codec compress hk ess cs hg)
    (by rw [spGPages_lengths]; rfl)
    (by rw [hb]; rfl)
  simpa only [hb, he] using this

theorem splitPages_nil (fuel : Nat) (cs : Choices) : splitPages fuel cs [] = ([], cs) := by
  cases fuel <;> rfl

theorem splitPages_cons (fuel : Nat) (cs : Choices) (r : PageEntries) (rs : List PageEntries) :
    splitPages (fuel + 1) cs (r :: rs) =
      (((r :: rs).take ((pick cs).1 % (r :: rs).length + 1)).flatten ::
          (splitPages fuel (pick cs).2 ((r :: rs).drop ((pick cs).1 % (r :: rs).length + 1))).1,
        (splitPages fuel (pick cs).2 ((r :: rs).drop ((pick cs).1 % (r :: rs).length + 1))).2) := by
  rw [splitPages]
  simp

theorem splitPages_spec : ∀ (fuel : Nat) (cs : Choices) (recs : List PageEntries), recs.length ≤ fuel →
    (splitPages fuel cs recs).1.flatten = recs.flatten ∧
    ∀ p ∈ (splitPages fuel cs recs).1, (∃ a b, recs.flatten = a ++ p ++ b) ∧ ((∀ r ∈ recs, r ≠ []) → p ≠ [])
  | fuel, cs, [], _ => by rw [splitPages_nil]; simp
  | 0, cs, r :: rs, hf => by simp at hf
  | fuel+1, cs, r :: rs, hf => by
    rw [splitPages_cons]
    generalize hn : (pick cs).1 % (r :: rs).length + 1 = n
    have hn1 : 1 ≤ n := by omega
    have hdl : ((r :: rs).drop n).length ≤ fuel := by
      rw [List.length_drop]; simp only [List.length_cons] at hf ⊢; omega
    obtain ⟨ih1, ih2⟩ := splitPages_spec fuel (pick cs).2 ((r :: rs).drop n) hdl
    have hsplit : (r :: rs).flatten = ((r :: rs).take n).flatten ++ ((r :: rs).drop n).flatten := by
      rw [← List.flatten_append, List.take_append_drop]
    simp only
    refine ⟨?_, ?_⟩
    · rw [List.flatten_cons, ih1, ← hsplit]
    · intro p hp
      rcases List.mem_cons.mp hp with rfl | hp
      · refine ⟨⟨[], ((r :: rs).drop n).flatten, by rw [List.nil_append]; exact hsplit⟩, ?_⟩
        intro hne
        obtain ⟨m, rfl⟩ : ∃ m, n = m + 1 := ⟨n - 1, by omega⟩
        rw [List.take_succ_cons, List.flatten_cons]
        intro h
        exact hne r List.mem_cons_self (List.append_eq_nil_iff.mp h).1
      · obtain ⟨⟨a, b, hab⟩, hne'⟩ := ih2 p hp
        refine ⟨⟨((r :: rs).take n).flatten ++ a, b, ?_⟩, fun hne => hne' (fun x hx => hne x (List.mem_of_mem_drop hx))⟩
        rw [hsplit, hab]; simp only [List.append_assoc]

theorem splitPages_ok (c : Col) (fuel : Nat) (cs : Choices) (recs : List PageEntries) (hf : recs.length ≤ fuel)
    (hrec : ∀ r ∈ recs, RecColOK c r) (hmd : c.maxDef ≤ 15) (hlen : recs.flatten.length + 8 ≤ 2 ^ 28) :
    ∀ p ∈ (splitPages fuel cs recs).1, SpPageOK c p := by
  intro p hp
  obtain ⟨⟨a, b, hab⟩, hne⟩ := (splitPages_spec fuel cs recs hf).2 p hp
  have hmem : ∀ e ∈ p, ∃ r ∈ recs, e ∈ r := by
    intro e he
    have : e ∈ recs.flatten := by rw [hab]; simp [he]
    exact List.mem_flatten.mp this
  have hl : p.length ≤ recs.flatten.length := by rw [hab]; simp only [List.length_append]; omega
  refine ⟨wfPage_of_recs c p recs hrec hmem (by omega) hmd, by omega, hne fun r hr => ?_⟩
  obtain ⟨e, tl, h, _⟩ := (hrec r hr).start
  rw [h]
  exact List.cons_ne_nil e tl

/-- **One column chunk of the spec writer, every choice.**  `perRec`: per record of the row group, the
entries it holds for column `c`.  For every choice stream `cs` — which decides the page split (any record
boundaries) and, page by page, the run segmentation of both level streams — any padding value, codec 0/1/2,
statistics / unknown thrift fields present or not, the reader's typed `Read` of the chunk fills the
column's buffer with exactly the records' entries and leaves the source right after the chunk. -/
theorem readChunk_spSplit (dc : Decomp) (cfg : SWCfg) (c : Col) (codec : Nat) (compress : Bytes → Bytes)
    (hk : ∀ raw, SpCodecOK dc codec compress raw) (perRec : List PageEntries) (cs : Choices) (fuel : Nat)
    (hf : perRec.length ≤ fuel) (hrec : ∀ r ∈ perRec, RecColOK c r) (hmd : c.maxDef ≤ 15)
    (hlen : perRec.flatten.length + 8 ≤ 2 ^ 28) :
    ChunkReads dc { col := c, pg := spPageMeta cfg c codec compress (splitPages fuel cs perRec).1 (splitPages fuel cs perRec).2,
                    bytes := (spEmit cfg c codec compress (splitPages fuel cs perRec).1 (splitPages fuel cs perRec).2).1,
                    es := perRec.flatten } := by
  have := readChunk_spChunk dc cfg c codec compress hk (splitPages fuel cs perRec).1 (splitPages fuel cs perRec).2
    (splitPages_ok c fuel cs perRec hf hrec hmd hlen)
  rw [(splitPages_spec fuel cs perRec hf).1] at this
  exact this

end PQ
