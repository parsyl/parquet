import PQ.Lemmas.ForeignRT
import PQ.Props.C18
/-!
# C18, whole file: one unsupported page / encoding / codec anywhere makes the reader stop with an error

Whatever the mutation, a page of the spec writer starts with a struct the reader decodes as a page header, and
`checkPage` refuses it if the mutation is one it is there to catch (`specPageBytes_head`); a codec id above 2 in
the chunk's metadata makes `pageData` refuse the first page.  Either way the page loop returns an error at these
bytes (`PageRefused`), so after the pages in front of them, which the reader handles, the typed `Read` of the chunk
fails (`chunkFails_of_refused`, `chunkFails_swGChunk`) and the row group is one `readOutcome_gen_mut`
(Lemmas/ReadLayout.lean) refuses; the layout of the file, for any mutation, is `specWrite_framed`
(Lemmas/SpecLayout.lean).  `readOutcome_specWrite_mutated` (with `readOutcome_specWrite_mutated_page0`, `readOutcome_specWrite_codec`): the reader delivers exactly the
records of the row groups before the mutated one and then stops with an error — no panic, no row of the mutated
row group or of a later one; `readAll_specWrite_mutated`: the same on the text line `readAll` prints.
-/
namespace PQ
open PQ.Thrift

/-- which header mutations a `checkPage ph defs reps` refuses -/
def Mutation.pageBad (m : Mutation) (defs reps : Bool) : Prop :=
  match m with
  | .none => False
  | .dictPage => True
  | .indexPage => True
  | .v2Page => True
  | .valueEncoding e => e ≠ 0
  | .defEncoding e => defs = true ∧ e ≠ 3
  | .repEncoding e => reps = true ∧ e ≠ 3
  | .codec _ => False

/-- **The mutations property C18 is about, for a page of column `c`** — exactly those the reader model refuses:
a dictionary page, an index page, a v2 data page: always; a value encoding other than PLAIN (0); a
definition-level encoding other than RLE (3) *if the column has definition levels*, i.e. is not a
`RequiredField` (`RequiredField.DoRead` calls `checkPage ph false false`: the level encodings in the header
of a column without levels are not looked at, such a file is read normally); a repetition-level encoding
other than RLE *if the column has repetition levels* (`OptionalField.DoRead` calls
`checkPage ph true (maxRep > 0)`); a codec id above 2 in the chunk's metadata (0, 1, 2 = uncompressed,
snappy, gzip are implemented; declaring another one of these three than the one used gives a
decompression failure or garbage and is outside the property). -/
def Mutation.unsupportedFor (m : Mutation) (c : Col) : Prop :=
  match m with
  | .none => False
  | .dictPage => True
  | .indexPage => True
  | .v2Page => True
  | .valueEncoding e => e ≠ 0
  | .defEncoding e => c.isRequired = false ∧ e ≠ 3
  | .repEncoding e => c.maxRep > 0 ∧ e ≠ 3
  | .codec k => 2 < k

instance (m : Mutation) (c : Col) : Decidable (m.unsupportedFor c) := by
  cases m <;> unfold Mutation.unsupportedFor <;> infer_instance

/-- is the mutation one of the chunk's metadata (the codec id) rather than of a page -/
def Mutation.isCodec : Mutation → Bool
  | .codec _ => true
  | _ => false

theorem pageBad_of_unsupported (m : Mutation) (c : Col) (h : m.unsupportedFor c) (hc : m.isCodec = false) :
    m.pageBad (!c.isRequired) (decide (c.maxRep > 0)) := by
  cases m with
  | none => exact h
  | dictPage => trivial
  | indexPage => trivial
  | v2Page => trivial
  | valueEncoding e => exact h
  | defEncoding e => exact ⟨by simp [h.1], h.2⟩
  | repEncoding e => exact ⟨by simp [h.1], h.2⟩
  | codec k => simp [Mutation.isCodec] at hc

/-- the headers of the page kinds the reader does not implement -/
def dictHdr : TVal := .struct [(1, .int 5 2), (2, .int 5 4), (3, .int 5 4), (7, .struct [(1, .int 5 1), (2, .int 5 0)])]
def indexHdr : TVal := .struct [(1, .int 5 1), (2, .int 5 0), (3, .int 5 0), (6, .struct [])]
def v2Hdr (n u z : Nat) : TVal :=
  .struct [(1, .int 5 3), (2, .int 5 u), (3, .int 5 z),
           (8, .struct [(1, .int 5 n), (2, .int 5 0), (3, .int 5 n), (4, .int 5 0), (5, .int 5 0), (6, .int 5 0)])]

theorem dictHdr_ok : TopOK dictHdr ∧ ∃ ph, decPHdr dictHdr = some ph ∧ ph.ty = 2 :=
  ⟨⟨rfl, by simp [dictHdr, TVal.WF, WFFields, tI32, tI64], by decide⟩, _, rfl, rfl⟩

theorem indexHdr_ok : TopOK indexHdr ∧ ∃ ph, decPHdr indexHdr = some ph ∧ ph.ty = 1 :=
  ⟨⟨rfl, by simp [indexHdr, TVal.WF, WFFields, tI32, tI64], by decide⟩, _, rfl, rfl⟩

theorem v2Hdr_ok (n u z : Nat) : TopOK (v2Hdr n u z) ∧ ∃ ph, decPHdr (v2Hdr n u z) = some ph ∧ ph.ty = 3 :=
  ⟨⟨rfl, by simp [v2Hdr, TVal.WF, WFFields, tI32, tI64], by simp [v2Hdr, TVal.slack, slackFields]⟩, _, rfl, rfl⟩

theorem checkPage_ty (ph : PHdr) (d r : Bool) (h : ph.ty ≠ 0) : checkPage ph d r = false := by
  unfold checkPage
  simp [h]

theorem checkPage_enc (u z n ve de re : Nat) (so : Option (List (Nat × TVal))) (d r : Bool)
    (h : ve ≠ 0 ∨ (d = true ∧ de ≠ 3) ∨ (r = true ∧ re ≠ 3)) : checkPage (muPH u z n ve de re so) d r = false := by
  rw [Bool.eq_false_iff]
  intro hc
  obtain ⟨_, nv, enc, denc, renc, st, hd, h1, h2, h3⟩ := (C18.checkPage_spec _ _ _).mp hc
  simp only [muPH, Option.some.injEq, Prod.mk.injEq] at hd
  obtain ⟨_, rfl, rfl, rfl, _⟩ := hd
  rcases h with h | ⟨hd', h⟩ | ⟨hr', h⟩
  · omega
  · have := h2 hd'; omega
  · have := h3 hr'; omega

/-- the bytes `b` start with an encoded struct that `readStruct` returns (`readStruct_at`) and `PageHeader.Read`
turns into `ph` -/
def HasHdr (b : Bytes) (ph : PHdr) : Prop :=
  ∃ (h : TVal) (tail : Bytes), b = h.enc ++ tail ∧ TopOK h ∧ decPHdr h = some ph

theorem HasHdr.readStruct {b : Bytes} {ph : PHdr} (h : HasHdr b ph) {file : Bytes} {pos : Nat} {rest : Bytes}
    (hd : file.drop pos = b ++ rest) : ∃ t s', (Src.mk file pos).readStruct = .ok (t, s') ∧ decPHdr t = some ph := by
  obtain ⟨v, tail, e, hv, h4⟩ := h
  rw [e, List.append_assoc] at hd
  exact ⟨v, _, readStruct_at v hv hd, h4⟩

theorem HasHdr.pos {b : Bytes} {ph : PHdr} (h : HasHdr b ph) : 1 ≤ b.length := by
  obtain ⟨v, tail, rfl, _⟩ := h
  have := enc_length_pos v
  rw [List.length_append]
  omega

/-- **The first thing the reader meets at a mutated page is a thrift struct it decodes as a page header and
then refuses** -/
theorem specPageBytes_head (cfg : SWCfg) (c : Col) (codec : Nat) (compress : Bytes → Bytes) (m : Mutation) (cs : Choices)
    (es : PageEntries) (defs reps : Bool) :
    ∃ ph, HasHdr (specPageBytes cfg c codec compress m cs es).1 ph ∧ (m.pageBad defs reps → checkPage ph defs reps = false) := by
  -- a data page header with the encoding ids `ve de re`: refused as soon as one of them is not the supported one
  have hmu : ∀ ve de re : Nat, (m.pageBad defs reps → ve ≠ 0 ∨ (defs = true ∧ de ≠ 3) ∨ (reps = true ∧ re ≠ 3)) →
      (specPageBytes cfg c codec compress m cs es).1 =
        (muHdr cfg c es (spRaw cfg c cs es).length (spComp codec compress (spRaw cfg c cs es)).length ve de re).enc ++
          spComp codec compress (spRaw cfg c cs es) →
      ∃ ph, HasHdr (specPageBytes cfg c codec compress m cs es).1 ph ∧ (m.pageBad defs reps → checkPage ph defs reps = false) :=
    fun ve de re hb e => ⟨_, ⟨_, _, e, muHdr_ok .., decPHdr_muHdr ..⟩,
      fun h => checkPage_enc _ _ _ _ _ _ _ _ _ (hb h)⟩
  -- another kind of page: refused for its type
  have hty : ∀ (h : TVal) (tail : Bytes) (k : Int), (specPageBytes cfg c codec compress m cs es).1 = h.enc ++ tail →
      (TopOK h ∧ ∃ ph, decPHdr h = some ph ∧ ph.ty = k) → k ≠ 0 →
      ∃ ph, HasHdr (specPageBytes cfg c codec compress m cs es).1 ph ∧ (m.pageBad defs reps → checkPage ph defs reps = false) :=
    fun h tail k e ⟨hv, ph, h4, h5⟩ hk =>
      ⟨ph, ⟨h, tail, e, hv, h4⟩, fun _ => checkPage_ty ph _ _ (by rw [h5]; exact hk)⟩
  cases m with
  | none => exact hmu 0 _ _ (fun h => h.elim) rfl
  | codec k => exact hmu 0 _ _ (fun h => h.elim) rfl
  | dictPage => exact hty dictHdr _ 2 ((List.append_assoc ..).trans (List.append_assoc ..)) dictHdr_ok (by decide)
  | indexPage => exact hty indexHdr _ 1 (List.append_assoc ..) indexHdr_ok (by decide)
  | v2Page => exact hty _ _ 3 rfl (v2Hdr_ok es.length _ _) (by decide)
  | valueEncoding e => exact hmu e 3 3 Or.inl rfl
  | defEncoding e => exact hmu 0 e 3 (fun h => Or.inr (Or.inl h)) rfl
  | repEncoding e => exact hmu 0 3 e (fun h => Or.inr (Or.inr h)) rfl

theorem specPageBytes_pos (cfg : SWCfg) (c : Col) (codec : Nat) (compress : Bytes → Bytes) (m : Mutation) (cs : Choices)
    (es : PageEntries) : 1 ≤ (specPageBytes cfg c codec compress m cs es).1.length := by
  obtain ⟨_, h, _⟩ := specPageBytes_head cfg c codec compress m cs es false false
  exact h.pos

/-- the page loops of the typed `Read`s of column `c` (`pg`: what `Pages()` lists for its chunk), arriving at
the bytes `b` while the chunk is not used up (`num_values` for a `RequiredField`, bytes otherwise), return an
error -/
def PageRefused (dc : Decomp) (c : Col) (pg : PageMeta) (b : Bytes) : Prop :=
  ∀ (file : Bytes) (pos : Nat) (rest : Bytes), file.drop pos = b ++ rest →
    ∀ (fuel : Nat) (nRead : Int) (buf : ColBuf) (out : Bytes) (sizes : List Int),
      (c.isRequired = true → nRead < pg.n → requiredDoRead dc pg (fuel + 1) ⟨file, pos⟩ nRead out sizes = .error .err) ∧
      (c.isRequired = false → nRead < pg.size → optionalDoRead dc c pg (fuel + 1) ⟨file, pos⟩ nRead buf out sizes = .error .err)

theorem pageRefused_mut (dc : Decomp) (cfg : SWCfg) (c : Col) (codec : Nat) (compress : Bytes → Bytes) (pg : PageMeta)
    (m : Mutation) (hbad : m.pageBad (!c.isRequired) (decide (c.maxRep > 0))) (cs : Choices) (es : PageEntries) :
    PageRefused dc c pg (specPageBytes cfg c codec compress m cs es).1 := by
  intro file pos rest hd fuel nRead buf out sizes
  obtain ⟨ph, hh, hc⟩ := specPageBytes_head cfg c codec compress m cs es (!c.isRequired) (decide (c.maxRep > 0))
  obtain ⟨t, s', h1, h2⟩ := hh.readStruct hd
  have h3 := hc hbad
  refine ⟨fun hreq hlt => ?_, fun hreq hlt => ?_⟩
  · rw [hreq, maxRep_zero_of_required c hreq] at h3
    exact C18.required_refuses dc pg fuel _ s' _ _ _ t ph hlt h1 h2 h3
  · rw [hreq] at h3
    exact C18.optional_refuses dc c pg fuel _ s' _ _ _ _ t ph hlt h1 h2 h3

/-- under a codec id the reader does not implement `pageData` refuses, whether or not `checkPage` accepts the
labels (nothing is assumed about the column) -/
theorem pageRefused_codec (dc : Decomp) (cfg : SWCfg) (c : Col) (codec : Nat) (compress : Bytes → Bytes) (pg : PageMeta)
    (h : 2 < pg.codec) (cs : Choices) (es : PageEntries) : PageRefused dc c pg (spPage cfg c codec compress cs es).1 := by
  intro file pos rest hd fuel nRead buf out sizes
  have hrs := readStruct_at _ (spHdr_ok ..) hd
  have hcr := fun s ph => C18.codec_refused dc s ph pg.codec (by omega) (by omega) (by omega)
  refine ⟨fun _ hlt => ?_, fun _ hlt => ?_⟩
  · rw [requiredDoRead, if_pos hlt]
    simp only [bind, Except.bind, hrs, decPHdr_spHdr, pure, Except.pure, checkPage_spPH_required, Bool.not_true,
      Bool.false_eq_true, if_false, numValuesOf_spPH, hcr]
  · rw [optionalDoRead, if_pos hlt]
    simp only [bind, Except.bind, hrs, decPHdr_spHdr, pure, Except.pure, hcr, ite_self]

/-- pages `ps` the reader handles, then bytes at which the loop returns an error, while the footer's `num_values`
and size say that the chunk goes on -/
theorem chunkFails_of_refused (dc : Decomp) (g : GChunk) (ps : List GPage) (bad tail : Bytes)
    (hb : g.bytes = pagesBytes ps ++ (bad ++ tail)) (hbad : PageRefused dc g.col g.pg bad) (hne : 1 ≤ bad.length)
    (hps : ∀ p ∈ ps, p.OKFor dc g.col g.pg.codec) (hn : (((ps.map (·.es.length)).sum : Nat) : Int) < g.pg.n)
    (hsize : g.pg.size = ((g.bytes.length : Nat) : Int)) : ChunkFails dc g := by
  intro file pos post buf hd
  rw [hb] at hd hsize
  simp only [List.append_assoc] at hd
  simp only [List.length_append] at hsize
  obtain ⟨f, hf⟩ := pages_fuel (fun p hp => (hps p hp).pos) hd
  have hstop := hbad file _ _ (drop_add_of_drop_eq hd) f
  unfold readChunk
  simp only
  rw [hf]
  cases hreq : g.col.isRequired with
  | true =>
    rw [if_pos rfl, requiredDoRead_prefix dc g.col g.pg hreq ps file pos (f + 1) _ 0 [] [] hps hd (by omega),
      (hstop _ buf _ _).1 hreq (by omega)]
    rfl
  | false =>
    rw [if_neg Bool.false_ne_true, optionalDoRead_prefix dc g.col g.pg hreq ps file pos (f + 1) _ 0 buf [] [] hps hd (by omega),
      (hstop _ _ _ _).2 hreq (by omega)]
    rfl

/-- the pages (entries per page) of the chunk of column `ci` of the row group `recs`, as split with the choices `cs` -/
def spPagesOf (recs : List Rec) (ci : Nat) (cs : Choices) : List PageEntries :=
  (splitPages ((recs.map fun r => r.getD ci []).length + 1) cs (recs.map fun r => r.getD ci [])).1

theorem spPagesOf_ne_nil (recs : List Rec) (ci : Nat) (cs : Choices) (h : recs ≠ []) : spPagesOf recs ci cs ≠ [] := by
  obtain ⟨r, rs, rfl⟩ := List.exists_cons_of_ne_nil h
  exact splitPages_ne_nil _ cs _ _

theorem mutAt_self (mu : MutAt) (i : Nat) : mutAt (some mu) mu.rg mu.col i = if mu.page = i then mu.m else .none := by
  simp [mutAt]

/-- **The mutated chunk is refused**, whatever the choices: one existing page of it carries a mutation that is
unsupported for the column, or the chunk's metadata name a codec id above 2 -/
theorem chunkFails_swGChunk (dc : Decomp) (cfg : SWCfg) (compress : Nat → Bytes → Bytes) (mu : MutAt) (recs : List Rec)
    (c : Col) (codec : Nat) (cs : Choices)
    (hdc : ∀ raw, dc.snappy (compress 1 raw) = some raw ∧ dc.gzip (compress 2 raw) = some raw)
    (hcol : SpColOK recs c codec mu.col) (hun : mu.m.unsupportedFor c) (hne : recs ≠ [])
    (hpage : mu.page < (spPagesOf recs mu.col cs).length ∨ mu.m.isCodec = true) :
    ChunkFails dc (swGChunk cfg compress (some mu) mu.rg recs c codec mu.col cs) := by
  have hok : ∀ p ∈ (spSplit recs mu.col cs).1, SpPageOK c p := by
    unfold spSplit
    exact splitPages_ok c _ cs _ (by omega)
      (by intro r hr; obtain ⟨r', hr', rfl⟩ := List.mem_map.mp hr; exact hcol.hrec r' hr') hcol.hdef
      (by rw [← List.flatMap_def]; exact hcol.hlen)
  -- `spPagesOf recs ci cs` unfolds to `(spSplit recs ci cs).1`: the same hypothesis, restated by definition
  have hpage : mu.page < (spSplit recs mu.col cs).1.length ∨ mu.m.isCodec = true := hpage
  have hbytes : (swGChunk cfg compress (some mu) mu.rg recs c codec mu.col cs).bytes =
      swPages cfg c codec (compress codec) (mutAt (some mu) mu.rg mu.col) (spSplit recs mu.col cs).1 0 (spSplit recs mu.col cs).2 := rfl
  have hnum : (swGChunk cfg compress (some mu) mu.rg recs c codec mu.col cs).pg.n =
      ((((spSplit recs mu.col cs).1.map List.length).sum : Nat) : Int) := rfl
  have hcodec : (swGChunk cfg compress (some mu) mu.rg recs c codec mu.col cs).pg.codec =
      ((codecAt (some mu) mu.rg mu.col codec : Nat) : Int) := rfl
  by_cases hcd : mu.m.isCodec = true
  · -- the codec id in the metadata: the pages are the unmutated writer's, `pageData` refuses at the first
    obtain ⟨kc, hkc⟩ : ∃ kc, mu.m = .codec kc := by
      cases hm : mu.m <;> simp [hm, Mutation.isCodec] at hcd
      exact ⟨_, rfl⟩
    have h2 : 2 < kc := by rw [hkc] at hun; exact hun
    have hco : codecAt (some mu) mu.rg mu.col codec = kc := by simp [codecAt, hkc]
    obtain ⟨es, ess, hess⟩ : ∃ es ess, (spSplit recs mu.col cs).1 = es :: ess :=
      List.exists_cons_of_ne_nil (spPagesOf_ne_nil recs mu.col cs hne)
    rw [swPages_none cfg c codec (compress codec) (mutAt (some mu) mu.rg mu.col) _ 0 _
      (fun i _ _ => by rw [mutAt_self, hkc]; split <;> rfl), hess, spEmit_cons, List.append_assoc] at hbytes
    rw [hco] at hcodec
    have hpos : 1 ≤ es.length := List.length_pos_iff.mpr (hok es (by rw [hess]; exact List.mem_cons_self)).ne
    refine chunkFails_of_refused dc _ [] _ _ hbytes
      (pageRefused_codec dc cfg c codec (compress codec) _ (by rw [hcodec]; omega) _ es) (spPage_hdr_pos ..) (by simp) ?_ rfl
    · rw [hnum, hess]
      simp only [List.map_nil, List.sum_nil, List.map_cons, List.sum_cons]
      omega
  · -- a page: the pages `a` in front of it are read, its header is refused
    have hcd' : mu.m.isCodec = false := by simpa using hcd
    have hpage : mu.page < (spSplit recs mu.col cs).1.length := hpage.resolve_right hcd
    have hco : codecAt (some mu) mu.rg mu.col codec = codec := by
      cases hm : mu.m <;> simp [hm, Mutation.isCodec, codecAt] at hcd' ⊢
    obtain ⟨a, p, b, hsp, ha⟩ : ∃ a p b, (spSplit recs mu.col cs).1 = a ++ p :: b ∧ a.length = mu.page :=
      ⟨_, _, _, (List.take_append_drop mu.page _).symm.trans (by rw [List.drop_eq_getElem_cons hpage]),
        by rw [List.length_take]; omega⟩
    rw [hsp] at hok
    have hpb := (spGPages_bytes cfg c codec (compress codec) a (spSplit recs mu.col cs).2).1
    rw [hsp, swPages_at cfg c codec (compress codec) (mutAt (some mu) mu.rg mu.col) a p b _
      (fun i hi => by rw [mutAt_self, if_neg (by omega)]; rfl), mutAt_self, if_pos ha.symm, ← hpb] at hbytes
    rw [hco] at hcodec
    refine chunkFails_of_refused dc _ _ _ _ hbytes
      (pageRefused_mut dc cfg c codec (compress codec) _ mu.m (pageBad_of_unsupported mu.m c hun hcd') _ p)
      (specPageBytes_pos ..) ?_ ?_ rfl
    · intro q hq
      rw [hcodec]
      exact spGPages_okFor dc cfg c codec (compress codec) (spCodecOK_of dc compress codec hcol.hcodec hdc) a _
        (fun es hes => hok es (by simp [hes])) q hq
    · have hpne : 1 ≤ p.length := List.length_pos_iff.mpr (hok p (by simp)).ne
      rw [hnum, hsp, spGPages_lengths]
      simp only [List.map_append, List.sum_append, List.map_cons, List.sum_cons]
      omega

/-- the number of pages of the column chunk (row group `rg`, column `col`) in the file `specWrite` writes
with the choices `cs` (mutated or not: the page split does not depend on the mutation), found by replaying
the choices of the row groups and columns before it -/
def specPageCount (cfg : SWCfg) (compress : Nat → Bytes → Bytes) (cs : Choices) (rowGroups : List (List Rec)) (rg col : Nat) : Nat :=
  (spPagesOf (rowGroups.getD rg []) col
    (spChunks cfg compress (rowGroups.getD rg []) ((cfg.cols.zip cfg.codecs).take col) 0
      (csAtGroup cfg compress rowGroups rg cs)).2).length

theorem specPageCount_pos_iff (cfg : SWCfg) (compress : Nat → Bytes → Bytes) (cs : Choices) (rowGroups : List (List Rec))
    {rg : Nat} (hrg : rg < rowGroups.length) (col : Nat) :
    0 < specPageCount cfg compress cs rowGroups rg col ↔ rowGroups[rg] ≠ [] := by
  unfold specPageCount
  rw [← List.getElem_eq_getD (h := hrg), List.length_pos_iff]
  refine ⟨fun h e => h ?_, spPagesOf_ne_nil _ _ _⟩
  rw [e]
  exact congrArg Prod.fst (splitPages_nil ..)

/-- the whole-file theorems differ only in how they say that the mutated page exists (`hne`, `hpage`) -/
theorem readOutcome_specWrite_mut_aux (cfg : SWCfg) (compress : Nat → Bytes → Bytes) (dc : Decomp) (cs : Choices)
    (rowGroups : List (List Rec)) (mu : MutAt) (hres : ColsResolve cfg.cols) (hok : SpFileOK cfg compress dc rowGroups)
    (hsize : (specWrite cfg compress (some mu) cs rowGroups).length < 2 ^ 32)
    (hrg : mu.rg < rowGroups.length) (hcol : mu.col < cfg.cols.length)
    (hne : rowGroups[mu.rg] ≠ [])
    (hpage : mu.page < specPageCount cfg compress cs rowGroups mu.rg mu.col ∨ mu.m.isCodec = true)
    (hun : mu.m.unsupportedFor cfg.cols[mu.col]) :
    readOutcome cfg.cols dc (specWrite cfg compress (some mu) cs rowGroups) =
      if mu.rg = 0 then .refusedAtOpen else .refused ((rowGroups.take mu.rg).flatten.map (rowOf cfg.cols.length)) := by
  obtain ⟨sd, _, hfr⟩ := specWrite_framed cfg compress (some mu) cs rowGroups hsize
  have hgr := swGroups_recs cfg compress (some mu) rowGroups 0 cs 4
  obtain ⟨gbad, hj⟩ : ∃ g, (swGroups cfg compress (some mu) rowGroups 0 cs 4)[mu.rg]? = some g :=
    ⟨_, List.getElem?_eq_getElem (by rw [← List.length_map (f := (·.recs)), hgr]; exact hrg)⟩
  obtain ⟨hch, hmetas, _, hbrecs⟩ := swGroups_getElem? cfg compress (some mu) rowGroups 0 cs 4 mu.rg gbad hj
  rw [List.getElem?_eq_getElem hrg, Option.some.injEq] at hbrecs
  rw [Nat.zero_add] at hch
  have hmem : gbad.recs ∈ rowGroups := hbrecs ▸ List.getElem_mem _
  have hcolok := hok.col hmem
  have hzl : mu.col < (cfg.cols.zip cfg.codecs).length := by rw [List.length_zip, hok.hcodecs.1]; omega
  have hmc := hcolok ((cfg.cols.zip cfg.codecs)[mu.col], mu.col)
    (List.mk_mem_zipIdx_iff_getElem?.mpr (List.getElem?_eq_getElem hzl))
  rw [List.getElem_zip] at hmc
  have hbad : gbad.Bad dc cfg.cols := by
    refine ⟨⟨by rw [hch, swChunks_cols, List.map_fst_zip (Nat.le_of_eq hok.hcodecs.1.symm)], hmetas⟩, ?_⟩
    -- the chunks before column `mu.col` are the unmutated writer's; then comes the mutated chunk, written with
    -- the choices they left
    rw [← List.take_append_drop mu.col (cfg.cols.zip cfg.codecs), List.drop_eq_getElem_cons hzl, List.getElem_zip,
      swChunks_append, swChunks_off cfg compress gbad.recs _ _ _ (fun i _ hi => MutOff.of_col (by
        rw [List.length_take] at hi; omega) mu.rg),
      swChunks, List.length_take, Nat.min_eq_left (Nat.le_of_lt hzl), Nat.zero_add] at hch
    refine ⟨_, _, _, hch,
      (spChunks_props dc cfg compress hok.hdc gbad.recs _ 0 _ (fun x hx => hcolok x (mem_zipIdx_take _ _ _ x hx))).2.1,
      chunkFails_swGChunk dc cfg compress mu gbad.recs _ _ _ hok.hdc hmc hun (hbrecs ▸ hne)
        (hpage.imp_left fun h => by unfold specPageCount at h; rwa [← List.getElem_eq_getD (h := hrg), hbrecs] at h)⟩
  have hgood : ∀ i g, (swGroups cfg compress (some mu) rowGroups 0 cs 4)[i]? = some g → mu.rg ≠ i → g.OK dc cfg.cols :=
    fun i g hi hne => swGroups_ok hok (some mu) 0 cs 4 i g hi fun ci => MutOff.of_rg (by omega) ci
  rw [readOutcome_gen_mut dc cfg.cols _ hres _ mu.rg gbad hj (fun i g hi h => hgood i g hi (by omega)) hbad (hbrecs ▸ hne)
    (fun i g hi h => (hgood i g hi (by omega)).toListed) _ hfr rfl (by rw [recsIn_swGroups]), List.flatMap_def, List.map_take,
    hgr]

/-- **C18, whole file.**  Take any file of the spec writer — every choice stream `cs` (page splits, run
segmentations), padding value, per-column codec out of uncompressed / snappy / gzip, with or without
statistics and unknown thrift fields, any number of row groups, empty ones included — in which ONE page
(row group `mu.rg`, column `mu.col`, page `mu.page` of that column chunk, any existing page) is written with
a feature that is unsupported for its column (`Mutation.unsupportedFor`: a dictionary / index / v2 page, a
non-PLAIN value encoding, a non-RLE level encoding on a column that has such levels, a codec id > 2 in the
chunk's metadata).  Then the reader

* returns an error from `NewParquetReader` if the mutation is in the first row group (the constructor
  loads it), and otherwise
* delivers — `Next` true, `Scan` — exactly the records of the row groups before the mutated one (row groups
  without records are skipped; if there are only such, nothing is delivered), each with exactly the entries
  written, and then `Next` is false with `Error() ≠ nil`.

It does not panic, and no row of the mutated row group (also not from the columns and pages before the
mutated page, which it has read by then) or of a later one is delivered.

Hypotheses as in `readAll_specWrite`, `hsize` about the mutated file; `hpage`: the page exists
(`specPageCount` replays the choices; in particular the row group holds records). -/
theorem readOutcome_specWrite_mutated (cfg : SWCfg) (compress : Nat → Bytes → Bytes) (dc : Decomp) (cs : Choices)
    (rowGroups : List (List Rec)) (mu : MutAt)
    (hres : ColsResolve cfg.cols)
    (hcodecs : cfg.codecs.length = cfg.cols.length ∧ ∀ c ∈ cfg.codecs, c ≤ 2)
    (hdc : ∀ raw, dc.snappy (compress 1 raw) = some raw ∧ dc.gzip (compress 2 raw) = some raw)
    (hrecs : ∀ rg ∈ rowGroups, ∀ r ∈ rg, ∀ x ∈ cfg.cols.zipIdx, RecColOK x.1 (r.getD x.2 []))
    (hdef : ∀ c ∈ cfg.cols, c.maxDef ≤ 15)
    (hlen : ∀ rg ∈ rowGroups, ∀ x ∈ cfg.cols.zipIdx, (rg.flatMap (·.getD x.2 [])).length + 8 ≤ 2 ^ 28)
    (hsize : (specWrite cfg compress (some mu) cs rowGroups).length < 2 ^ 32)
    (hrg : mu.rg < rowGroups.length) (hcol : mu.col < cfg.cols.length)
    (hpage : mu.page < specPageCount cfg compress cs rowGroups mu.rg mu.col)
    (hun : mu.m.unsupportedFor cfg.cols[mu.col]) :
    readOutcome cfg.cols dc (specWrite cfg compress (some mu) cs rowGroups) =
      if mu.rg = 0 then .refusedAtOpen
      else .refused ((rowGroups.take mu.rg).flatten.map (fun r => (List.range cfg.cols.length).map fun i => r.getD i [])) :=
  readOutcome_specWrite_mut_aux cfg compress dc cs rowGroups mu hres ⟨hcodecs, hdc, hrecs, hdef, hlen⟩ hsize hrg hcol
    ((specPageCount_pos_iff cfg compress cs rowGroups hrg mu.col).1 (Nat.zero_lt_of_lt hpage)) (Or.inl hpage) hun

/-- the first page of the chunk: it exists as soon as the row group holds records -/
theorem readOutcome_specWrite_mutated_page0 (cfg : SWCfg) (compress : Nat → Bytes → Bytes) (dc : Decomp) (cs : Choices)
    (rowGroups : List (List Rec)) (mu : MutAt)
    (hres : ColsResolve cfg.cols)
    (hcodecs : cfg.codecs.length = cfg.cols.length ∧ ∀ c ∈ cfg.codecs, c ≤ 2)
    (hdc : ∀ raw, dc.snappy (compress 1 raw) = some raw ∧ dc.gzip (compress 2 raw) = some raw)
    (hrecs : ∀ rg ∈ rowGroups, ∀ r ∈ rg, ∀ x ∈ cfg.cols.zipIdx, RecColOK x.1 (r.getD x.2 []))
    (hdef : ∀ c ∈ cfg.cols, c.maxDef ≤ 15)
    (hlen : ∀ rg ∈ rowGroups, ∀ x ∈ cfg.cols.zipIdx, (rg.flatMap (·.getD x.2 [])).length + 8 ≤ 2 ^ 28)
    (hsize : (specWrite cfg compress (some mu) cs rowGroups).length < 2 ^ 32)
    (hrg : mu.rg < rowGroups.length) (hcol : mu.col < cfg.cols.length)
    (hne : rowGroups[mu.rg] ≠ []) (hpage : mu.page = 0)
    (hun : mu.m.unsupportedFor cfg.cols[mu.col]) :
    readOutcome cfg.cols dc (specWrite cfg compress (some mu) cs rowGroups) =
      if mu.rg = 0 then .refusedAtOpen
      else .refused ((rowGroups.take mu.rg).flatten.map (fun r => (List.range cfg.cols.length).map fun i => r.getD i [])) :=
  readOutcome_specWrite_mut_aux cfg compress dc cs rowGroups mu hres ⟨hcodecs, hdc, hrecs, hdef, hlen⟩ hsize hrg hcol hne
    (Or.inl (hpage ▸ (specPageCount_pos_iff cfg compress cs rowGroups hrg mu.col).2 hne)) hun

/-- an unsupported codec id in the chunk's metadata: whatever `mu.page` is (the codec is a property of the
chunk), as soon as the row group holds records -/
theorem readOutcome_specWrite_codec (cfg : SWCfg) (compress : Nat → Bytes → Bytes) (dc : Decomp) (cs : Choices)
    (rowGroups : List (List Rec)) (mu : MutAt) (k : Nat)
    (hres : ColsResolve cfg.cols)
    (hcodecs : cfg.codecs.length = cfg.cols.length ∧ ∀ c ∈ cfg.codecs, c ≤ 2)
    (hdc : ∀ raw, dc.snappy (compress 1 raw) = some raw ∧ dc.gzip (compress 2 raw) = some raw)
    (hrecs : ∀ rg ∈ rowGroups, ∀ r ∈ rg, ∀ x ∈ cfg.cols.zipIdx, RecColOK x.1 (r.getD x.2 []))
    (hdef : ∀ c ∈ cfg.cols, c.maxDef ≤ 15)
    (hlen : ∀ rg ∈ rowGroups, ∀ x ∈ cfg.cols.zipIdx, (rg.flatMap (·.getD x.2 [])).length + 8 ≤ 2 ^ 28)
    (hsize : (specWrite cfg compress (some mu) cs rowGroups).length < 2 ^ 32)
    (hrg : mu.rg < rowGroups.length) (hcol : mu.col < cfg.cols.length)
    (hne : rowGroups[mu.rg] ≠ []) (hm : mu.m = .codec k) (hk : 2 < k) :
    readOutcome cfg.cols dc (specWrite cfg compress (some mu) cs rowGroups) =
      if mu.rg = 0 then .refusedAtOpen
      else .refused ((rowGroups.take mu.rg).flatten.map (fun r => (List.range cfg.cols.length).map fun i => r.getD i [])) :=
  readOutcome_specWrite_mut_aux cfg compress dc cs rowGroups mu hres ⟨hcodecs, hdc, hrecs, hdef, hlen⟩ hsize hrg hcol hne
    (Or.inr (by rw [hm]; rfl)) (by rw [hm]; exact hk)

/-- **C18 on the line the harness compares with the Go program**: for the mutated file the text driver prints
`open=err …` if the first row group is the mutated one, and otherwise `open=ok`, one `Next` per record of the
row groups before the mutated one, `err=err`, and the `Scan` texts of exactly those records. -/
theorem readAll_specWrite_mutated (cfg : SWCfg) (compress : Nat → Bytes → Bytes) (dc : Decomp) (cs : Choices)
    (rowGroups : List (List Rec)) (mu : MutAt)
    (hres : ColsResolve cfg.cols)
    (hcodecs : cfg.codecs.length = cfg.cols.length ∧ ∀ c ∈ cfg.codecs, c ≤ 2)
    (hdc : ∀ raw, dc.snappy (compress 1 raw) = some raw ∧ dc.gzip (compress 2 raw) = some raw)
    (hrecs : ∀ rg ∈ rowGroups, ∀ r ∈ rg, ∀ x ∈ cfg.cols.zipIdx, RecColOK x.1 (r.getD x.2 []))
    (hdef : ∀ c ∈ cfg.cols, c.maxDef ≤ 15)
    (hlen : ∀ rg ∈ rowGroups, ∀ x ∈ cfg.cols.zipIdx, (rg.flatMap (·.getD x.2 [])).length + 8 ≤ 2 ^ 28)
    (hsize : (specWrite cfg compress (some mu) cs rowGroups).length < 2 ^ 32)
    (hrg : mu.rg < rowGroups.length) (hcol : mu.col < cfg.cols.length)
    (hpage : mu.page < specPageCount cfg compress cs rowGroups mu.rg mu.col)
    (hun : mu.m.unsupportedFor cfg.cols[mu.col]) :
    (mu.rg = 0 → readAll cfg.cols dc (specWrite cfg compress (some mu) cs rowGroups) = "open=err rows=0 nexts=0 err=- recs=-") ∧
    (mu.rg ≠ 0 → ∃ n : Int, readAll cfg.cols dc (specWrite cfg compress (some mu) cs rowGroups) =
      s!"open=ok rows={n} nexts={(rowGroups.take mu.rg).flatten.length} err=err recs={if (((rowGroups.take mu.rg).flatten.map (rowOf cfg.cols.length)).map (rowText cfg.cols)).isEmpty then "-" else ";".intercalate (((rowGroups.take mu.rg).flatten.map (rowOf cfg.cols.length)).map (rowText cfg.cols))}") := by
  have h := readOutcome_specWrite_mutated cfg compress dc cs rowGroups mu hres hcodecs hdc hrecs hdef hlen hsize hrg hcol hpage hun
  obtain ⟨t1, t2⟩ := readAll_of_refused cfg.cols dc (specWrite cfg compress (some mu) cs rowGroups)
  constructor
  · intro h0
    rw [if_pos h0] at h
    exact t1 h
  · intro h0
    rw [if_neg h0] at h
    obtain ⟨n, hn⟩ := t2 _ h
    refine ⟨n, ?_⟩
    rw [hn, List.length_map]
    rfl

/-! ## Non-vacuity: two columns (snappy / gzip), statistics and unknown fields, three row groups -/
section NonVacuity

private def fmCols : List Col :=
  [{ path := ["a"], reps := [.req], ty := .i32 }, { path := ["b"], reps := [.rpt], ty := .i32 }]
private def fmCfg : SWCfg := { cols := fmCols, codecs := [1, 2], withStats := true, withExtras := true, padv := 3 }
private def fmDc : Decomp := { snappy := some, gzip := some }
/-- record `k`: `a = k`, `b = [k, k + 256]` for even `k` and `[]` for odd `k` -/
private def fmRec (k : Nat) : Rec :=
  [[{ rep := 0, dl := 0, val := some [k, 0, 0, 0] }],
   if k % 2 = 0 then [{ rep := 0, dl := 1, val := some [k, 0, 0, 0] }, { rep := 1, dl := 1, val := some [k, 1, 0, 0] }]
   else [{ rep := 0, dl := 0, val := none }]]
private def fmGroups : List (List Rec) := [[fmRec 1, fmRec 2, fmRec 3], [fmRec 4], [fmRec 5, fmRec 6]]
private def fmCs : Choices := [1, 0, 1, 1, 0, 2, 1, 5, 3, 0, 0, 1, 7, 2, 8, 1]

private theorem fm_recs : ∀ rg ∈ fmGroups, ∀ r ∈ rg, ∀ x ∈ fmCols.zipIdx, RecColOK x.1 (r.getD x.2 []) := by decide

private theorem fm_len : ∀ rg ∈ fmGroups, ∀ x ∈ fmCols.zipIdx, (rg.flatMap (·.getD x.2 [])).length + 8 ≤ 2 ^ 28 := by
  decide

private theorem fm_res : ColsResolve fmCols := colsResolve_of_check _ (by decide +kernel)

/-! Each application of the theorem below evaluates the written file once, for `hsize`; the outcomes in the
`==` form the driver compares are then read off the theorem's conclusion, not evaluated again. -/

private theorem fm_dict : readOutcome fmCols fmDc (specWrite fmCfg (fun _ b => b) (some ⟨0, 1, 1, .dictPage⟩) fmCs fmGroups) =
    .refusedAtOpen :=
  readOutcome_specWrite_mutated fmCfg (fun _ b => b) fmDc fmCs fmGroups ⟨0, 1, 1, .dictPage⟩
    fm_res (by decide) (fun _ => ⟨rfl, rfl⟩) fm_recs (by decide) fm_len
    (by decide +kernel) (by decide) (by decide) (by decide +kernel) (by decide)

private theorem fm_valEnc : readOutcome fmCols fmDc (specWrite fmCfg (fun _ b => b) (some ⟨1, 0, 0, .valueEncoding 2⟩) fmCs fmGroups) =
    .refused [fmRec 1, fmRec 2, fmRec 3] :=
  readOutcome_specWrite_mutated fmCfg (fun _ b => b) fmDc fmCs fmGroups ⟨1, 0, 0, .valueEncoding 2⟩
    fm_res (by decide) (fun _ => ⟨rfl, rfl⟩) fm_recs (by decide) fm_len
    (by decide +kernel) (by decide) (by decide) (by decide +kernel) (by decide)

private theorem fm_codec : readOutcome fmCols fmDc (specWrite fmCfg (fun _ b => b) (some ⟨2, 1, 7, .codec 6⟩) fmCs fmGroups) =
    .refused [fmRec 1, fmRec 2, fmRec 3, fmRec 4] :=
  readOutcome_specWrite_codec fmCfg (fun _ b => b) fmDc fmCs fmGroups ⟨2, 1, 7, .codec 6⟩ 6
    fm_res (by decide) (fun _ => ⟨rfl, rfl⟩) fm_recs (by decide) fm_len
    (by decide +kernel) (by decide) (by decide) (by decide) rfl (by decide)

/-- the theorem applied: a dictionary page in front of the SECOND page of column `b` in the first row group
(the first page of that chunk, and the whole chunk of column `a`, are read before it) — the constructor
returns an error -/
example : readOutcome fmCols fmDc (specWrite fmCfg (fun _ b => b) (some ⟨0, 1, 1, .dictPage⟩) fmCs fmGroups) = .refusedAtOpen :=
  fm_dict

/-- a value encoding other than PLAIN (2 = PLAIN_DICTIONARY) on the page of column `a` in the second row
group: the three records of the first row group are delivered, then `Next` is false with an error -/
example : readOutcome fmCols fmDc (specWrite fmCfg (fun _ b => b) (some ⟨1, 0, 0, .valueEncoding 2⟩) fmCs fmGroups) =
    .refused [fmRec 1, fmRec 2, fmRec 3] :=
  fm_valEnc

/-- codec id 6 (ZSTD) declared for column `b` in the last row group: the records of the two row groups before
it are delivered, then the error -/
example : readOutcome fmCols fmDc (specWrite fmCfg (fun _ b => b) (some ⟨2, 1, 7, .codec 6⟩) fmCs fmGroups) =
    .refused [fmRec 1, fmRec 2, fmRec 3, fmRec 4] :=
  fm_codec

/-- bit-packed (1) repetition levels on the repeated column `b`: refused; the same on the required column
`a`, which has no levels: not a mutation the property is about (`unsupportedFor` is false), and read normally -/
example : readOutcome fmCols fmDc (specWrite fmCfg (fun _ b => b) (some ⟨2, 1, 0, .repEncoding 1⟩) fmCs fmGroups) =
    .refused [fmRec 1, fmRec 2, fmRec 3, fmRec 4] :=
  readOutcome_specWrite_mutated_page0 fmCfg (fun _ b => b) fmDc fmCs fmGroups ⟨2, 1, 0, .repEncoding 1⟩
    fm_res (by decide) (fun _ => ⟨rfl, rfl⟩) fm_recs (by decide) fm_len
    (by decide +kernel) (by decide) (by decide) (by decide) rfl (by decide)
example : ¬ (Mutation.repEncoding 1).unsupportedFor fmCols[0] := by decide

/-- the same outcomes as the derived `BEq` compares them -/
example : (readOutcome fmCols fmDc (specWrite fmCfg (fun _ b => b) (some ⟨0, 1, 1, .dictPage⟩) fmCs fmGroups) ==
    .refusedAtOpen) = true := by rw [fm_dict]; rfl
example : (readOutcome fmCols fmDc (specWrite fmCfg (fun _ b => b) (some ⟨1, 0, 0, .valueEncoding 2⟩) fmCs fmGroups) ==
    .refused [fmRec 1, fmRec 2, fmRec 3]) = true := by rw [fm_valEnc]; decide
example : (readOutcome fmCols fmDc (specWrite fmCfg (fun _ b => b) (some ⟨2, 1, 7, .codec 6⟩) fmCs fmGroups) ==
    .refused [fmRec 1, fmRec 2, fmRec 3, fmRec 4]) = true := by rw [fm_codec]; decide
/-- mutations no theorem above is applied to, by kernel evaluation of the writer and reader models alone -/
example : (readOutcome fmCols fmDc (specWrite fmCfg (fun _ b => b) (some ⟨1, 1, 0, .indexPage⟩) fmCs fmGroups) ==
    .refused [fmRec 1, fmRec 2, fmRec 3]) = true := by decide +kernel
example : (readOutcome fmCols fmDc (specWrite fmCfg (fun _ b => b) (some ⟨2, 0, 0, .v2Page⟩) fmCs fmGroups) ==
    .refused [fmRec 1, fmRec 2, fmRec 3, fmRec 4]) = true := by decide +kernel
example : (readOutcome fmCols fmDc (specWrite fmCfg (fun _ b => b) (some ⟨2, 0, 0, .repEncoding 1⟩) fmCs fmGroups) ==
    .accepted [fmRec 1, fmRec 2, fmRec 3, fmRec 4, fmRec 5, fmRec 6]) = true := by decide +kernel
/-- only row groups without records before the mutated one: the first `Next` is false with the error, no row -/
example : (readOutcome fmCols fmDc (specWrite fmCfg (fun _ b => b) (some ⟨2, 1, 0, .defEncoding 4⟩) fmCs [[], [], [fmRec 1], []]) ==
    .refused []) = true := by decide +kernel
/-- a page index past the chunk's pages mutates nothing: the file is read normally -/
example : (readOutcome fmCols fmDc (specWrite fmCfg (fun _ b => b) (some ⟨0, 1, 5, .dictPage⟩) fmCs fmGroups) ==
    .accepted [fmRec 1, fmRec 2, fmRec 3, fmRec 4, fmRec 5, fmRec 6]) = true := by decide +kernel

/-! ### the same with parquet-mr style labels on the un-mutated pages (`mrLabels := true`) -/

private def fmCfgMr : SWCfg := { fmCfg with mrLabels := true }

private theorem fmMr_valEnc : readOutcome fmCols fmDc (specWrite fmCfgMr (fun _ b => b) (some ⟨1, 0, 0, .valueEncoding 2⟩) fmCs fmGroups) =
    .refused [fmRec 1, fmRec 2, fmRec 3] :=
  readOutcome_specWrite_mutated fmCfgMr (fun _ b => b) fmDc fmCs fmGroups ⟨1, 0, 0, .valueEncoding 2⟩
    fm_res (by decide) (fun _ => ⟨rfl, rfl⟩) fm_recs (by decide) fm_len
    (by decide +kernel) (by decide) (by decide) (by decide +kernel) (by decide)

/-- the theorem applied to a file with parquet-mr style labels: the chunk of the required column `a` (both level
encodings labelled BIT_PACKED) and the first page of column `b` are read, then the dictionary page is refused -/
example : readOutcome fmCols fmDc (specWrite fmCfgMr (fun _ b => b) (some ⟨0, 1, 1, .dictPage⟩) fmCs fmGroups) = .refusedAtOpen :=
  readOutcome_specWrite_mutated fmCfgMr (fun _ b => b) fmDc fmCs fmGroups ⟨0, 1, 1, .dictPage⟩
    fm_res (by decide) (fun _ => ⟨rfl, rfl⟩) fm_recs (by decide) fm_len
    (by decide +kernel) (by decide) (by decide) (by decide +kernel) (by decide)

/-- ... the whole first row group (labels `(4, 4)` on column `a`) is delivered before the refusal -/
example : readOutcome fmCols fmDc (specWrite fmCfgMr (fun _ b => b) (some ⟨1, 0, 0, .valueEncoding 2⟩) fmCs fmGroups) =
    .refused [fmRec 1, fmRec 2, fmRec 3] :=
  fmMr_valEnc

/-- by kernel evaluation: the labels are in the file; a level-encoding label on the required column is no reason
to refuse, with either style of labels -/
example : specWrite fmCfgMr (fun _ b => b) (some ⟨1, 0, 0, .valueEncoding 2⟩) fmCs fmGroups ≠
    specWrite fmCfg (fun _ b => b) (some ⟨1, 0, 0, .valueEncoding 2⟩) fmCs fmGroups := by decide +kernel
example : (readOutcome fmCols fmDc (specWrite fmCfgMr (fun _ b => b) (some ⟨1, 0, 0, .valueEncoding 2⟩) fmCs fmGroups) ==
    .refused [fmRec 1, fmRec 2, fmRec 3]) = true := by rw [fmMr_valEnc]; decide
example : (readOutcome fmCols fmDc (specWrite fmCfgMr (fun _ b => b) (some ⟨2, 0, 0, .repEncoding 1⟩) fmCs fmGroups) ==
    .accepted [fmRec 1, fmRec 2, fmRec 3, fmRec 4, fmRec 5, fmRec 6]) = true := by decide +kernel

end NonVacuity

end PQ
