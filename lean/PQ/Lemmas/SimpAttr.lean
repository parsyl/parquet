import Lean
/-- Bit `j` of a table entry `(x &&& m) <<< s ||| …` of the bit-packing tables: `getLsbD` through `|||`, `&&&`,
shifts and literals, and the look-up of a byte or value in a list literal.  Used by the per-table facts of
`PQ/Props/C17.lean`. -/
register_simp_attr bitfield
