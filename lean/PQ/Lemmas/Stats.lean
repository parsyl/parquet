import PQ.Model.Page
/-!
# The page statistics accumulators (`PQ/Model/Stats.lean`), for `PQ/Props/C12.lean`

`vLt` is irreflexive and transitive for every type and every pair of byte strings, NaN included:
every comparison with a NaN is `false`.  That is all a running minimum `foldl (keepLess lt)` needs to
be a bound, so `acc_eq` — the accumulator of a page in closed form, for all eight types at once:
nulls counted, running minimum / maximum of the `consumed` values — yields bounds, provenance and
"never NaN" without a case split on the type.  `le` is the column type's `≤` by `le_iff_key`
(an integer key, numerics) and `le_str_iff` (`List` `≤`, strings).
-/
namespace PQ.C12
open PQ

/-- the definition-level discipline of one column's entries, as a hypothesis: the `dl` / `val` clauses
of `PQ.C03.levels_bounded` (stated there of `stripeTop`, with the column's `maxDef`);
`striped_of_wfPage` discharges it for a well-formed page -/
def Striped (maxDef : Nat) (es : List (Entry Bytes)) : Prop :=
  ∀ e ∈ es, e.dl ≤ maxDef ∧ (e.val.isSome ↔ e.dl = maxDef)

instance (maxDef : Nat) (es : List (Entry Bytes)) : Decidable (Striped maxDef es) := by
  unfold Striped; exact inferInstance

/-- the accumulator after all entries of a page (`pageStats` with the column abstracted) -/
def acc (ty : PType) (maxDef : Nat) (es : List (Entry Bytes)) : Stats :=
  es.foldl (Stats.addEntry ty maxDef) (Stats.init ty)

theorem pageStats_eq (c : Col) (es : PageEntries) :
    pageStats c es = acc c.ty (if c.isRequired then 0 else c.maxDef) es := rfl

/-- fixed-width PLAIN value whose bytes are bytes (only used to show hypotheses are satisfiable: no
theorem needs it) -/
def WT (ty : PType) (v : Bytes) : Prop := v.length = ty.width ∧ ∀ b ∈ v, b < 256

instance (ty : PType) (v : Bytes) : Decidable (WT ty v) := by unfold WT; exact inferInstance

/-- NaN-ness of a PLAIN value in the column type -/
def isNaN (ty : PType) (v : Bytes) : Bool :=
  match ty with
  | .f32 => fIsNaN 8 23 (fromLE v)
  | .f64 => fIsNaN 11 52 (fromLE v)
  | _ => false

/-- `a ≤ b` in the column type's order (meaningful on non-NaN values, see `le_iff_key`) -/
def le (ty : PType) (a b : Bytes) : Prop := vLt ty b a = false

instance (ty : PType) (a b : Bytes) : Decidable (le ty a b) := by unfold le; exact inferInstance

/-- the integer the numeric orders compare -/
def key (ty : PType) (v : Bytes) : Int :=
  match ty with
  | .i32 => toSigned 4 (fromLE v)
  | .i64 => toSigned 8 (fromLE v)
  | .u32 | .u64 => (fromLE v : Int)
  | .f32 => fKey 8 23 (fromLE v)
  | .f64 => fKey 11 52 (fromLE v)
  | _ => 0

/-- the six types with a `math.Max<T>` / zero initialised accumulator -/
def Numeric (ty : PType) : Prop := ty ≠ .bool ∧ ty ≠ .str

instance (ty : PType) : Decidable (Numeric ty) := by unfold Numeric; exact inferInstance

theorem fLt_irrefl (e m a : Nat) : fLt e m a a = false := by
  unfold fLt
  have : ¬ fKey e m a < fKey e m a := Int.lt_irrefl _
  simp [this]

theorem fLt_trans (e m : Nat) {a b c : Nat} (h1 : fLt e m a b = true) (h2 : fLt e m b c = true) :
    fLt e m a c = true := by
  unfold fLt at *
  simp only [Bool.and_eq_true, Bool.not_eq_true', decide_eq_true_eq] at *
  exact ⟨⟨h1.1.1, h2.1.2⟩, Int.lt_trans h1.2 h2.2⟩

theorem fLt_not_nan (e m : Nat) {a b : Nat} (h : fLt e m a b = true) :
    fIsNaN e m a = false ∧ fIsNaN e m b = false := by
  unfold fLt at h
  simp only [Bool.and_eq_true, Bool.not_eq_true', decide_eq_true_eq] at h
  exact h.1

theorem vLt_irrefl (ty : PType) (a : Bytes) : vLt ty a a = false := by
  cases ty <;> simp [vLt, fLt_irrefl, List.lt_irrefl]

theorem vLt_trans (ty : PType) {a b c : Bytes} (h1 : vLt ty a b = true) (h2 : vLt ty b c = true) :
    vLt ty a c = true := by
  cases ty <;> simp only [vLt, decide_eq_true_eq] at *
  · exact Int.lt_trans h1 h2
  · exact Int.lt_trans h1 h2
  · exact Nat.lt_trans h1 h2
  · exact Nat.lt_trans h1 h2
  · exact fLt_trans _ _ h1 h2
  · exact fLt_trans _ _ h1 h2
  · exact absurd h1 (by simp)
  · exact List.lt_trans h1 h2

theorem vLt_not_nan (ty : PType) {a b : Bytes} (h : vLt ty a b = true) :
    isNaN ty a = false ∧ isNaN ty b = false := by
  cases ty <;> simp only [vLt, isNaN, and_self] at *
  · exact fLt_not_nan _ _ h
  · exact fLt_not_nan _ _ h

theorem vLt_nan_left (ty : PType) {a : Bytes} (h : isNaN ty a = true) (b : Bytes) :
    vLt ty a b = false := by
  cases hv : vLt ty a b
  · rfl
  · have := (vLt_not_nan ty hv).1; rw [h] at this; cases this

theorem vLt_nan_right (ty : PType) {b : Bytes} (h : isNaN ty b = true) (a : Bytes) :
    vLt ty a b = false := by
  cases hv : vLt ty a b
  · rfl
  · have := (vLt_not_nan ty hv).2; rw [h] at this; cases this

theorem vLt_eq_key {ty : PType} (h : Numeric ty) (a b : Bytes) :
    vLt ty a b = (!isNaN ty a && !isNaN ty b && decide (key ty a < key ty b)) := by
  cases ty
  case bool => exact absurd rfl h.1
  case str => exact absurd rfl h.2
  all_goals first | rfl | simp [vLt, isNaN, key]

theorem le_iff_key {ty : PType} (h : Numeric ty) {a b : Bytes}
    (ha : isNaN ty a = false) (hb : isNaN ty b = false) : le ty a b ↔ key ty a ≤ key ty b := by
  unfold le
  rw [vLt_eq_key h, ha, hb]
  simp [Int.not_lt]

theorem le_str_iff (a b : Bytes) : le .str a b ↔ a ≤ b := by
  unfold le
  simp [vLt, List.not_lt]

theorem le_refl (ty : PType) (a : Bytes) : le ty a a := vLt_irrefl ty a

theorem le_total_num {ty : PType} (h : Numeric ty) {a b : Bytes}
    (ha : isNaN ty a = false) (hb : isNaN ty b = false) : le ty a b ∨ le ty b a := by
  rw [le_iff_key h ha hb, le_iff_key h hb ha]; omega

theorem le_trans_num {ty : PType} (h : Numeric ty) {a b c : Bytes}
    (ha : isNaN ty a = false) (hb : isNaN ty b = false) (hc : isNaN ty c = false)
    (h1 : le ty a b) (h2 : le ty b c) : le ty a c := by
  rw [le_iff_key h ha hb] at h1; rw [le_iff_key h hb hc] at h2; rw [le_iff_key h ha hc]; omega

theorem le_total_str (a b : Bytes) : le .str a b ∨ le .str b a := by
  rw [le_str_iff, le_str_iff]; exact List.le_total a b

theorem le_trans_str {a b c : Bytes} (h1 : le .str a b) (h2 : le .str b c) : le .str a c := by
  rw [le_str_iff] at *; exact List.le_trans h1 h2

/-- one step of a running minimum; the running maximum is `keepLess` for the converse relation -/
def keepLess (lt : Bytes → Bytes → Bool) (m v : Bytes) : Bytes := if lt v m then v else m

section keepLess
variable {lt : Bytes → Bytes → Bool}

theorem keepLess_bound (irr : ∀ a, lt a a = false)
    (tr : ∀ {a b c}, lt a b = true → lt b c = true → lt a c = true)
    {P : Bytes → Prop} {m : Bytes} (v : Bytes) (h : ∀ w, P w → lt w m = false) :
    ∀ w, (P w ∨ w = v) → lt w (keepLess lt m v) = false := by
  intro w hw
  unfold keepLess
  cases hvm : lt v m
  · simp only [Bool.false_eq_true, if_false]
    rcases hw with hw | rfl
    · exact h w hw
    · exact hvm
  · simp only [if_true]
    rcases hw with hw | rfl
    · cases hwv : lt w v
      · rfl
      · have := tr hwv hvm; rw [h w hw] at this; cases this
    · exact irr _

theorem foldl_keepLess_bound (irr : ∀ a, lt a a = false)
    (tr : ∀ {a b c}, lt a b = true → lt b c = true → lt a c = true) (vs : List Bytes) (m : Bytes) :
    ∀ w ∈ vs, lt w (vs.foldl (keepLess lt) m) = false := by
  suffices ∀ (vs : List Bytes) (P : Bytes → Prop) (m : Bytes), (∀ w, P w → lt w m = false) →
      ∀ w, (P w ∨ w ∈ vs) → lt w (vs.foldl (keepLess lt) m) = false from
    fun w hw => this vs (fun _ => False) m (fun _ h => h.elim) w (Or.inr hw)
  intro vs
  induction vs with
  | nil => intro P m h w hw; exact h w (hw.resolve_right (List.not_mem_nil))
  | cons v vs ih =>
    intro P m h w hw
    refine ih (fun w => P w ∨ w = v) _ (keepLess_bound irr tr v h) w ?_
    rcases hw with hw | hw
    · exact Or.inl (Or.inl hw)
    · exact (List.mem_cons.1 hw).elim (fun e => Or.inl (Or.inr e)) Or.inr

theorem foldl_keepLess_mem (vs : List Bytes) : ∀ m, vs.foldl (keepLess lt) m = m ∨ vs.foldl (keepLess lt) m ∈ vs := by
  induction vs with
  | nil => exact fun m => Or.inl rfl
  | cons v vs ih =>
    intro m
    rcases ih (keepLess lt m v) with h | h
    · rw [List.foldl_cons, h]
      unfold keepLess
      split
      · exact Or.inr List.mem_cons_self
      · exact Or.inl rfl
    · exact Or.inr (List.mem_cons_of_mem _ h)

theorem foldl_keepLess_inv {Q : Bytes → Prop} (h : ∀ v m, lt v m = true → Q v) (vs : List Bytes) :
    ∀ m, Q m → Q (vs.foldl (keepLess lt) m) := by
  induction vs with
  | nil => exact fun _ hm => hm
  | cons v vs ih =>
    intro m hm
    refine ih _ ?_
    unfold keepLess
    split
    · exact h v m ‹_›
    · exact hm

end keepLess

theorem addVal_nils (ty : PType) (s : Stats) (v : Bytes) : (s.addVal ty v).nils = s.nils := by
  cases ty <;> rfl

/-- every accumulator keeps a running minimum and maximum (`bool`: its `<` is constantly false), a
string accumulator from its second value on -/
theorem addVal_eq {ty : PType} {s : Stats} (h : ty = .str → s.nonNils ≠ 0) (v : Bytes) :
    s.addVal ty v = { min := keepLess (vLt ty) s.min v, max := keepLess (fun a b => vLt ty b a) s.max v,
                      nils := s.nils, nonNils := s.nonNils + 1 } := by
  cases ty
  case str => simp only [Stats.addVal, keepLess, if_neg (h rfl)]
  all_goals rfl

/-- the first value of a string accumulator is both bounds (the templates' `seen` flag) -/
theorem addVal_str_first {s : Stats} (h : s.nonNils = 0) (v : Bytes) :
    s.addVal .str v = { min := v, max := v, nils := s.nils, nonNils := 1 } := by
  simp only [Stats.addVal, h, if_true]

theorem addVal_setNils (ty : PType) (s : Stats) (n : Nat) (v : Bytes) :
    ({ s with nils := n } : Stats).addVal ty v = { s.addVal ty v with nils := n } := by
  unfold Stats.addVal; split <;> rfl

/-- the values the accumulator consumes: what the entries at the maximal definition level carry -/
def consumed (maxDef : Nat) (es : List (Entry Bytes)) : List Bytes :=
  es.filterMap fun e => if e.dl < maxDef then none else e.val

theorem mem_consumed {maxDef : Nat} {es : List (Entry Bytes)} {v : Bytes} :
    v ∈ consumed maxDef es ↔ ∃ e ∈ es, ¬ e.dl < maxDef ∧ e.val = some v := by
  simp only [consumed, List.mem_filterMap]
  refine exists_congr fun e => and_congr_right fun _ => ?_
  split <;> simp [*]

theorem Striped.null_iff {maxDef : Nat} {es : List (Entry Bytes)} (hs : Striped maxDef es)
    {e : Entry Bytes} (he : e ∈ es) : e.dl < maxDef ↔ e.val = none := by
  have ⟨h1, h2⟩ := hs e he
  rw [← Option.not_isSome_iff_eq_none, h2]
  omega

theorem mem_consumed_striped {maxDef : Nat} {es : List (Entry Bytes)} (hs : Striped maxDef es)
    {v : Bytes} : v ∈ consumed maxDef es ↔ ∃ e ∈ es, e.val = some v := by
  rw [mem_consumed]
  refine ⟨fun ⟨e, he, _, hv⟩ => ⟨e, he, hv⟩, fun ⟨e, he, hv⟩ => ⟨e, he, ?_, hv⟩⟩
  rw [hs.null_iff he, hv]; exact nofun

theorem filter_null_striped {maxDef : Nat} {es : List (Entry Bytes)} (hs : Striped maxDef es) :
    es.filter (fun e => decide (e.dl < maxDef)) = es.filter (fun e => e.val.isNone) :=
  List.filter_congr fun e he => by
    rw [Bool.eq_iff_iff, decide_eq_true_iff, Option.isNone_iff_eq_none]; exact hs.null_iff he

/-- nulls and values do not interfere: count the former, feed the latter -/
theorem foldl_addEntry (ty : PType) (maxDef : Nat) (es : List (Entry Bytes)) : ∀ s : Stats,
    es.foldl (Stats.addEntry ty maxDef) s = (consumed maxDef es).foldl (Stats.addVal ty)
      { s with nils := s.nils + (es.filter (fun e => decide (e.dl < maxDef))).length } := by
  induction es with
  | nil => exact fun _ => rfl
  | cons e es ih =>
    intro s
    rw [List.foldl_cons, ih]
    unfold consumed Stats.addEntry
    rw [List.filterMap_cons, List.filter_cons]
    by_cases hd : e.dl < maxDef
    · simp only [hd, if_true, decide_true, List.length_cons, Stats.addNull]
      rw [Nat.add_assoc, Nat.add_comm 1]
    · simp only [hd, if_false, decide_false, Bool.false_eq_true]
      cases e.val with
      | none => rfl
      | some v => simp only [List.foldl_cons, addVal_setNils, addVal_nils]

theorem foldl_addVal {ty : PType} (vs : List Bytes) : ∀ s : Stats, (ty = .str → s.nonNils ≠ 0) →
    vs.foldl (Stats.addVal ty) s =
      { min := vs.foldl (keepLess (vLt ty)) s.min, max := vs.foldl (keepLess fun a b => vLt ty b a) s.max,
        nils := s.nils, nonNils := s.nonNils + vs.length } := by
  induction vs with
  | nil => exact fun _ _ => rfl
  | cons v vs ih =>
    intro s h
    rw [List.foldl_cons, addVal_eq h, ih _ (fun _ => Nat.succ_ne_zero _), List.length_cons,
      Nat.add_assoc, Nat.add_comm 1]
    rfl

/-- where a running bound starts: the first value for strings (the templates' `seen` flag), the
initial `math.Max<T>` resp. zero otherwise -/
def start (ty : PType) (m0 : Bytes) (vs : List Bytes) : Bytes := if ty = .str then vs.headD [] else m0

theorem start_not_nan {ty : PType} {m0 : Bytes} (h : isNaN ty m0 = false) (vs : List Bytes) :
    isNaN ty (start ty m0 vs) = false := by
  unfold start; split
  · subst ‹ty = .str›; rfl
  · exact h

theorem start_cases {ty : PType} (hb : ty ≠ .bool) (m0 : Bytes) {vs : List Bytes}
    (hne : ty = .str → vs ≠ []) : (Numeric ty ∧ start ty m0 vs = m0) ∨ start ty m0 vs ∈ vs := by
  unfold start; split
  · cases vs with
    | nil => exact absurd rfl (hne ‹_›)
    | cons v vs => exact Or.inr List.mem_cons_self
  · exact Or.inl ⟨⟨hb, ‹_›⟩, rfl⟩

/-- **the accumulator of a page in closed form, all eight types** -/
theorem acc_eq (ty : PType) (maxDef : Nat) (es : List (Entry Bytes)) :
    acc ty maxDef es =
      { min := (consumed maxDef es).foldl (keepLess (vLt ty)) (start ty (Stats.init ty).min (consumed maxDef es)),
        max := (consumed maxDef es).foldl (keepLess fun a b => vLt ty b a)
          (start ty (Stats.init ty).max (consumed maxDef es)),
        nils := (es.filter (fun e => decide (e.dl < maxDef))).length,
        nonNils := (consumed maxDef es).length } := by
  have h0 : (Stats.init ty).nils = 0 ∧ (Stats.init ty).nonNils = 0 := by cases ty <;> exact ⟨rfl, rfl⟩
  rw [acc, foldl_addEntry, h0.1, Nat.zero_add, start, start]
  by_cases hstr : ty = .str
  · subst hstr
    cases consumed maxDef es with
    | nil => rfl
    | cons v vs =>
      rw [List.foldl_cons, addVal_str_first rfl, foldl_addVal _ _ (fun _ => Nat.succ_ne_zero _)]
      simp only [if_true, List.headD_cons, List.foldl_cons, keepLess, vLt_irrefl, Bool.false_eq_true,
        if_false, List.length_cons, Nat.add_comm 1]
  · rw [foldl_addVal _ _ (fun e => absurd e hstr), if_neg hstr, if_neg hstr, h0.2, Nat.zero_add]

theorem bounds (ty : PType) (maxDef : Nat) (es : List (Entry Bytes)) :
    ∀ v ∈ consumed maxDef es,
      vLt ty v (acc ty maxDef es).min = false ∧ vLt ty (acc ty maxDef es).max v = false := by
  rw [acc_eq]
  exact fun v hv => ⟨foldl_keepLess_bound (vLt_irrefl ty) (vLt_trans ty) _ _ v hv,
    foldl_keepLess_bound (lt := fun a b => vLt ty b a) (vLt_irrefl ty)
      (fun h1 h2 => vLt_trans ty h2 h1) _ _ v hv⟩

/-- `min` / `max` are never NaN: a NaN beats nothing and the starting values are none -/
theorem not_nan (ty : PType) (maxDef : Nat) (es : List (Entry Bytes)) :
    isNaN ty (acc ty maxDef es).min = false ∧ isNaN ty (acc ty maxDef es).max = false := by
  rw [acc_eq]
  exact ⟨foldl_keepLess_inv (lt := vLt ty) (Q := fun v => isNaN ty v = false)
      (fun _ _ h => (vLt_not_nan ty h).1) _ _ (start_not_nan (by cases ty <;> decide) _),
    foldl_keepLess_inv (lt := fun a b => vLt ty b a) (Q := fun v => isNaN ty v = false)
      (fun _ _ h => (vLt_not_nan ty h).2) _ _ (start_not_nan (by cases ty <;> decide) _)⟩

theorem nonNils_zero_iff (ty : PType) (maxDef : Nat) (es : List (Entry Bytes)) :
    (acc ty maxDef es).nonNils = 0 ↔ consumed maxDef es = [] := by
  rw [acc_eq]; exact List.length_eq_zero_iff

theorem consumed_eq_nil {maxDef : Nat} {es : List (Entry Bytes)} (h : ∀ e ∈ es, e.val = none) :
    consumed maxDef es = [] :=
  List.eq_nil_iff_forall_not_mem.2 fun v hv => by
    obtain ⟨e, he, _, h'⟩ := mem_consumed.1 hv
    rw [h e he] at h'; cases h'

/-- statistics never invent values -/
theorem attained {ty : PType} (maxDef : Nat) (es : List (Entry Bytes)) (hb : ty ≠ .bool)
    (hne : ty = .str → (acc ty maxDef es).nonNils ≠ 0) :
    ((Numeric ty ∧ (acc ty maxDef es).min = (Stats.init ty).min) ∨
      (acc ty maxDef es).min ∈ consumed maxDef es) ∧
    ((Numeric ty ∧ (acc ty maxDef es).max = (Stats.init ty).max) ∨
      (acc ty maxDef es).max ∈ consumed maxDef es) := by
  have hne' : ty = .str → consumed maxDef es ≠ [] :=
    fun h h0 => hne h ((nonNils_zero_iff ty maxDef es).2 h0)
  rw [acc_eq]
  constructor
  · rcases foldl_keepLess_mem (lt := vLt ty) (consumed maxDef es) (start ty (Stats.init ty).min _) with h | h
    · rw [h]; exact start_cases hb _ hne'
    · exact Or.inr h
  · rcases foldl_keepLess_mem (lt := fun a b => vLt ty b a) (consumed maxDef es)
      (start ty (Stats.init ty).max _) with h | h
    · rw [h]; exact start_cases hb _ hne'
    · exact Or.inr h

theorem result_nulls (ty : PType) (required : Bool) (s : Stats) :
    (s.result ty required).1 = if required then none else some s.nils := by
  cases ty <;> cases required <;> rfl

/-- `Min()` and `Max()`: never for `bool`; for strings and the optional kinds only once a value was
consumed -/
theorem result_bounds (ty : PType) (required : Bool) (s : Stats) :
    (s.result ty required).2 =
      if ty = .bool ∨ (s.nonNils = 0 ∧ (required = false ∨ ty = .str)) then (none, none)
      else (some s.min, some s.max) := by
  unfold Stats.result
  by_cases h0 : s.nonNils = 0 <;> split <;> simp_all

theorem result_min_some {ty : PType} {required : Bool} {s : Stats} {mn : Bytes}
    (h : (s.result ty required).2.1 = some mn) :
    s.min = mn ∧ ty ≠ .bool ∧ (ty = .str → s.nonNils ≠ 0) := by
  rw [result_bounds] at h; split at h
  · cases h
  · rename_i hc
    exact ⟨Option.some.inj h, fun hb => hc (Or.inl hb), fun hs h0 => hc (Or.inr ⟨h0, Or.inr hs⟩)⟩

theorem result_max_some {ty : PType} {required : Bool} {s : Stats} {mx : Bytes}
    (h : (s.result ty required).2.2 = some mx) :
    s.max = mx ∧ ty ≠ .bool ∧ (ty = .str → s.nonNils ≠ 0) := by
  rw [result_bounds] at h; split at h
  · cases h
  · rename_i hc
    exact ⟨Option.some.inj h, fun hb => hc (Or.inl hb), fun hs h0 => hc (Or.inr ⟨h0, Or.inr hs⟩)⟩

theorem result_isSome {ty : PType} {required : Bool} (h : required = false ∨ ty = .str)
    (hb : ty ≠ .bool) (s : Stats) :
    ((s.result ty required).2.1.isSome = true ↔ s.nonNils ≠ 0) ∧
    ((s.result ty required).2.2.isSome = true ↔ s.nonNils ≠ 0) := by
  rw [result_bounds]
  by_cases h0 : s.nonNils = 0 <;> simp [h0, hb, h]

end PQ.C12
