import PQ.Model.Dremel
/-!
# Lemmas about Dremel striping / assembly (`PQ.Model.Dremel`)

Everything is by structural induction on the list of repetition types `ts`, generalising the
accumulators `r d k` of `stripe`, so the statements hold for every nesting depth and every value
(unbounded list lengths).
-/
namespace PQ

variable {α : Type}

@[simp] theorem maxDef_nil : maxDef [] = 0 := rfl
@[simp] theorem maxDef_req (ts : List Rep) : maxDef (.req :: ts) = maxDef ts := rfl
@[simp] theorem maxDef_opt (ts : List Rep) : maxDef (.opt :: ts) = maxDef ts + 1 := rfl
@[simp] theorem maxDef_rpt (ts : List Rep) : maxDef (.rpt :: ts) = maxDef ts + 1 := rfl
@[simp] theorem maxRep_nil : maxRep [] = 0 := rfl
@[simp] theorem maxRep_req (ts : List Rep) : maxRep (.req :: ts) = maxRep ts := rfl
@[simp] theorem maxRep_opt (ts : List Rep) : maxRep (.opt :: ts) = maxRep ts := rfl
@[simp] theorem maxRep_rpt (ts : List Rep) : maxRep (.rpt :: ts) = maxRep ts + 1 := rfl

theorem maxRep_le_maxDef (ts : List Rep) : maxRep ts ≤ maxDef ts := by
  induction ts with
  | nil => exact Nat.le_refl _
  | cons t ts ih =>
    cases t <;> simp only [maxDef_req, maxDef_opt, maxDef_rpt, maxRep_req, maxRep_opt, maxRep_rpt] <;> omega

theorem lt_two_pow_bitsLen (n : Nat) : n < 2 ^ bitsLen n := by
  unfold bitsLen
  by_cases h : n = 0
  · rw [if_pos h, h]; decide
  · rw [if_neg h]; exact Nat.lt_log2_self

theorem bitsLen_le_of_lt_two_pow (n w : Nat) (h : n < 2 ^ w) : bitsLen n ≤ w := by
  unfold bitsLen
  by_cases h0 : n = 0
  · rw [if_pos h0]; exact Nat.zero_le _
  · rw [if_neg h0]
    have := (Nat.log2_lt (k := w) h0).2 h
    omega

theorem stripe_nil (r d k : Nat) (v : α) : stripe (α := α) [] r d k v = [⟨r, d, some v⟩] := rfl
theorem stripe_req (ts : List Rep) (r d k : Nat) (v : Proj α ts) :
    stripe (α := α) (.req :: ts) r d k v = stripe ts r d k v := rfl
theorem stripe_opt_none (ts : List Rep) (r d k : Nat) :
    stripe (α := α) (.opt :: ts) r d k (none : Option (Proj α ts)) = [⟨r, d, none⟩] := rfl
theorem stripe_opt_some (ts : List Rep) (r d k : Nat) (x : Proj α ts) :
    stripe (α := α) (.opt :: ts) r d k (some x : Option (Proj α ts)) = stripe ts r (d+1) k x := rfl
theorem stripe_rpt_nil (ts : List Rep) (r d k : Nat) :
    stripe (α := α) (.rpt :: ts) r d k ([] : List (Proj α ts)) = [⟨r, d, none⟩] := rfl
theorem stripe_rpt_cons (ts : List Rep) (r d k : Nat) (x : Proj α ts) (xs : List (Proj α ts)) :
    stripe (α := α) (.rpt :: ts) r d k (x :: xs : List (Proj α ts)) =
      stripe ts r (d+1) (k+1) x ++ xs.flatMap (stripe ts (k+1) (d+1) (k+1)) := rfl

/-- the level bounds below an optional or repeated element, seen from above it -/
theorem levels_up {x : Entry α} {d D : Nat}
    (h : d + 1 ≤ x.dl ∧ x.dl ≤ d + 1 + D ∧ (x.val.isSome ↔ x.dl = d + 1 + D)) :
    d ≤ x.dl ∧ x.dl ≤ d + (D + 1) ∧ (x.val.isSome ↔ x.dl = d + (D + 1)) := by
  rw [← Nat.add_assoc, Nat.add_right_comm]
  exact ⟨Nat.le_of_succ_le h.1, h.2⟩

/-- A striping is never empty; its first entry carries the requested repetition level `r`, every
later entry has a repetition level in `[k+1, k + maxRep ts]` (it repeats one of the repeated
fields *below* the `k` repeated ancestors); definition levels lie in `[d, d + maxDef ts]` and a
value is present exactly at the top level. -/
theorem stripe_spec (ts : List Rep) (r d k : Nat) (v : Proj α ts) :
    (∃ e tl, stripe ts r d k v = e :: tl ∧ e.rep = r ∧
      ∀ x ∈ tl, k + 1 ≤ x.rep ∧ x.rep ≤ k + maxRep ts) ∧
    ∀ e ∈ stripe ts r d k v,
      d ≤ e.dl ∧ e.dl ≤ d + maxDef ts ∧ (e.val.isSome ↔ e.dl = d + maxDef ts) := by
  induction ts generalizing r d k with
  | nil =>
    exact ⟨⟨_, _, rfl, rfl, fun _ hx => nomatch hx⟩, fun e he => by
      rw [List.mem_singleton.1 he]; exact ⟨Nat.le_refl _, Nat.le_refl _, fun _ => rfl, fun _ => rfl⟩⟩
  | cons t ts ih =>
    cases t with
    | req => exact ih r d k v
    | opt =>
      cases v with
      | none =>
        exact ⟨⟨_, _, rfl, rfl, fun _ hx => nomatch hx⟩, fun e he => by
          rw [List.mem_singleton.1 he]; simp⟩
      | some x => exact ⟨(ih r (d+1) k x).1, fun e he => levels_up ((ih r (d+1) k x).2 e he)⟩
    | rpt =>
      cases v with
      | nil =>
        exact ⟨⟨_, _, rfl, rfl, fun _ hx => nomatch hx⟩, fun e he => by
          rw [List.mem_singleton.1 he]; simp⟩
      | cons x xs =>
        obtain ⟨⟨e, tl, h1, h2, h3⟩, h4⟩ := ih r (d+1) (k+1) x
        rw [stripe_rpt_cons]
        refine ⟨⟨e, tl ++ xs.flatMap (stripe ts (k+1) (d+1) (k+1)), by rw [h1]; rfl, h2, ?_⟩, ?_⟩
        · intro y hy
          rw [maxRep_rpt]
          rcases List.mem_append.1 hy with hy | hy
          · have := h3 y hy; omega
          · obtain ⟨z, _, hz⟩ := List.mem_flatMap.1 hy
            obtain ⟨⟨e2, tl2, g1, g2, g3⟩, _⟩ := ih (k+1) (d+1) (k+1) z
            rw [g1] at hz
            rcases List.mem_cons.1 hz with rfl | hz
            · omega
            · have := g3 y hz; omega
        · intro y hy
          refine levels_up ?_
          rcases List.mem_append.1 hy with hy | hy
          · exact h4 y hy
          · obtain ⟨z, _, hz⟩ := List.mem_flatMap.1 hy
            exact (ih (k+1) (d+1) (k+1) z).2 y hz

theorem stripe_head (ts : List Rep) (r d k : Nat) (v : Proj α ts) :
    ∃ e tl, stripe ts r d k v = e :: tl ∧ e.rep = r ∧ d ≤ e.dl := by
  obtain ⟨⟨e, tl, h1, h2, _⟩, h4⟩ := stripe_spec ts r d k v
  exact ⟨e, tl, h1, h2, (h4 e (h1 ▸ List.mem_cons_self)).1⟩

theorem stripe_ne_nil (ts : List Rep) (r d k : Nat) (v : Proj α ts) : stripe ts r d k v ≠ [] := by
  obtain ⟨e, tl, h1, _⟩ := stripe_head ts r d k v
  rw [h1]; exact List.cons_ne_nil _ _

theorem all_req_iff (l : List Rep) : (l.all (· == .req)) = true ↔ ∀ x ∈ l, x = .req := by
  simp only [List.all_eq_true]
  exact forall_congr' fun x => imp_congr_right fun _ => by cases x <;> decide

theorem maxDef_of_all_req {ts : List Rep} (h : ∀ t ∈ ts, t = Rep.req) : maxDef ts = 0 := by
  induction ts with
  | nil => rfl
  | cons t ts ih =>
    rw [h t List.mem_cons_self, maxDef_req]
    exact ih fun t ht => h t (List.mem_cons_of_mem _ ht)

/-- a column below only required ancestors: one entry, levels unchanged, and the projection is the
leaf value itself -/
theorem stripe_required (ts : List Rep) (hreq : ∀ t ∈ ts, t = Rep.req) (r d k : Nat)
    (v : Proj α ts) : ∃ x : α, stripe ts r d k v = [⟨r, d, some x⟩] ∧ zeroProj x ts = v := by
  induction ts with
  | nil => exact ⟨v, rfl, rfl⟩
  | cons t ts ih =>
    have ht : t = Rep.req := hreq t List.mem_cons_self
    subst ht
    exact ih (fun t h => hreq t (List.mem_cons_of_mem _ h)) v

/-- the stream after a value does not continue a list deeper than `k` repeated ancestors -/
def Stops (k : Nat) (rest : List (Entry α)) : Prop := ∀ e, rest.head? = some e → e.rep ≤ k

theorem Stops_nil (k : Nat) : Stops k ([] : List (Entry α)) := fun _ h => nomatch h

theorem Stops_cons {k : Nat} {e : Entry α} (tl : List (Entry α)) (h : e.rep ≤ k) :
    Stops k (e :: tl) := fun _ he' => Option.some.inj he' ▸ h

/-- the streams that may follow a whole record: empty, or starting another record -/
theorem Stops_zero_iff (rest : List (Entry α)) :
    Stops 0 rest ↔ rest = [] ∨ ∃ e tl, rest = e :: tl ∧ e.rep = 0 := by
  cases rest with
  | nil => exact ⟨fun _ => Or.inl rfl, fun _ => Stops_nil 0⟩
  | cons e tl =>
    refine ⟨fun h => Or.inr ⟨e, tl, rfl, Nat.le_zero.1 (h e rfl)⟩, fun h => ?_⟩
    obtain ⟨_, _, h, h0⟩ := h.resolve_left (List.cons_ne_nil e tl)
    exact h ▸ Stops_cons _ (Nat.le_of_eq h0)

theorem Stops_mono {k k' : Nat} (hk : k ≤ k') (rest : List (Entry α)) (h : Stops k rest) :
    Stops k' rest := fun e he => Nat.le_trans (h e he) hk

theorem Stops_flatMap {β : Type} {enc : β → List (Entry α)} {k : Nat}
    (henc : ∀ x, ∃ e tl, enc x = e :: tl ∧ e.rep = k) (xs : List β) {rest : List (Entry α)}
    (h : Stops k rest) : Stops k (xs.flatMap enc ++ rest) := by
  cases xs with
  | nil => exact h
  | cons y ys =>
    obtain ⟨e, tl, he, hrep⟩ := henc y
    rw [List.flatMap_cons, he]
    exact Stops_cons _ (Nat.le_of_eq hrep)

theorem many_spec {β : Type} (p : List (Entry α) → Option (β × List (Entry α))) (k : Nat)
    (enc : β → List (Entry α))
    (henc : ∀ x, ∃ e tl, enc x = e :: tl ∧ e.rep = k + 1)
    (hp : ∀ x rest, Stops (k + 1) rest → p (enc x ++ rest) = some (x, rest))
    (xs : List β) (rest : List (Entry α)) (hrest : Stops k rest)
    (fuel : Nat) (hf : (xs.flatMap enc ++ rest).length ≤ fuel) :
    many p (k + 1) fuel (xs.flatMap enc ++ rest) = some (xs, rest) := by
  induction xs generalizing fuel with
  | nil =>
    cases fuel with
    | zero => rfl
    | succ f =>
      cases rest with
      | nil => rfl
      | cons e rest =>
        have : e.rep ≠ k + 1 := Nat.ne_of_lt (Nat.lt_succ_of_le (hrest e rfl))
        simp [many, this]
  | cons x xs ih =>
    obtain ⟨e, tl, he, hrep⟩ := henc x
    have hpx := hp x _ (Stops_flatMap henc xs (Stops_mono (Nat.le_succ k) rest hrest))
    rw [List.flatMap_cons, List.append_assoc] at hf ⊢
    rw [he] at hf hpx ⊢
    cases fuel with
    | zero => exact absurd hf (Nat.not_succ_le_zero _)
    | succ f =>
      have := ih f (Nat.le_trans (by simp) (Nat.le_of_succ_le_succ hf))
      simp only [List.cons_append] at hpx ⊢
      simp only [many, hrep, if_true, hpx, this]

/-- per-column Dremel losslessness, all repetition-type lists, all values -/
theorem parse_stripe (ts : List Rep) (r d k : Nat) (v : Proj α ts) (rest : List (Entry α))
    (h : Stops k rest) : parse ts d k (stripe ts r d k v ++ rest) = some (v, rest) := by
  induction ts generalizing r d k rest with
  | nil => simp [stripe, parse]
  | cons t ts ih =>
    cases t with
    | req => exact ih r d k v rest h
    | opt =>
      cases v with
      | none => simp [stripe, parse]
      | some x =>
        obtain ⟨e, tl, h1, _, h3⟩ := stripe_head ts r (d+1) k x
        have hx := ih r (d+1) k x rest h
        simp only [stripe, parse]
        rw [h1] at hx ⊢
        have : e.dl ≠ d := by omega
        simp only [List.cons_append, this, if_false] at hx ⊢
        rw [hx]
    | rpt =>
      cases v with
      | nil => simp [stripe, parse]
      | cons x xs =>
        obtain ⟨e, tl, h1, _, h3⟩ := stripe_head ts r (d+1) (k+1) x
        have henc : ∀ y : Proj α ts, ∃ e tl, stripe ts (k+1) (d+1) (k+1) y = e :: tl ∧ e.rep = k+1 :=
          fun y => let ⟨e, tl, a, b, _⟩ := stripe_head ts (k+1) (d+1) (k+1) y; ⟨e, tl, a, b⟩
        have hmany := many_spec (parse ts (d+1) (k+1)) k (stripe ts (k+1) (d+1) (k+1)) henc
          (fun y rest' hs => ih (k+1) (d+1) (k+1) y rest' hs) xs rest h _ (Nat.le_refl _)
        have hx := ih r (d+1) (k+1) x _ (Stops_flatMap henc xs (Stops_mono (Nat.le_succ k) rest h))
        simp only [stripe, parse, List.append_assoc]
        rw [h1] at hx ⊢
        have : e.dl ≠ d := by omega
        simp only [List.cons_append, this, if_false] at hx ⊢
        rw [hx]
        simp only [hmany]

theorem takeWhile_dropWhile_append_stop {β : Type} (p : β → Bool) (l rest : List β)
    (hl : ∀ x ∈ l, p x = true)
    (hr : rest = [] ∨ ∃ e tl, rest = e :: tl ∧ p e = false) :
    (l ++ rest).takeWhile p = l ∧ (l ++ rest).dropWhile p = rest := by
  rw [List.takeWhile_append_of_pos hl, List.dropWhile_append_of_pos hl]
  rcases hr with rfl | ⟨e, tl, rfl, he⟩
  · exact ⟨List.append_nil l, rfl⟩
  · rw [List.takeWhile_cons_of_neg (by simp [he]), List.dropWhile_cons_of_neg (by simp [he])]
    exact ⟨List.append_nil l, rfl⟩

theorem splitRecords_succ (fuel : Nat) {es : List (Entry α)} (h : es ≠ []) :
    splitRecords (fuel+1) es = (takeRecord es).1 :: splitRecords fuel (takeRecord es).2 := by
  cases es with
  | nil => exact absurd rfl h
  | cons e l => rfl

end PQ
