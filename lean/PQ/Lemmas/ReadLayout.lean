import PQ.Lemmas.ReadOutcome
import PQ.Props.C10
/-!
# The generated reader on any file laid out as row groups of column chunks

All that the row-group / `Pages()` / `Next`-`Scan` reasoning uses of a column chunk is that the typed `Read`
started at its first byte fills the column's buffer with the chunk's entries and stops right after it
(`ChunkReads`) — or returns an error (`ChunkFails`) —, and that the footer's `ColumnChunk` names the column and
carries the chunk's `num_values`, `total_compressed_size` and codec (`MetaFor`).  A row group is a `GRG`: `.OK` (read
back), `.Bad` (one chunk fails) or merely `.Listed` by the footer.  The chunk walk of `readRowGroup` is followed
once, over any prefix of chunks that are read back (`readRowGroup_go_prefix`); the `Next`/`Scan` loop by its
invariant from row group to row group (`Boundary`, `delivers_loaded`).  `readAll_gen`: every row group `OK`, all
records are delivered; `readOutcome_gen_mut`: one `Bad` row group, exactly the records before it, then the error.

Instances: the writer model's files (ReaderRT.lean), the files of the independent spec writer (ForeignRT.lean,
ForeignMut.lean), both over a source that starts failing (FaultRT.lean, FaultRTW.lean).
-/
namespace PQ
open PQ.Thrift

/-- every column is found under its own joined path (`strings.Join(path, ".")`): the joined column
names are pairwise distinct.  Decidable for a concrete column list. -/
def ColsResolve (cols : List Col) : Prop :=
  ∀ (i : Nat) (c : Col), cols[i]? = some c → colIndex cols (pathName (c.path.map strBytes)) = some i

def colsResolveB (cols : List Col) : Bool :=
  (List.range cols.length).all fun i =>
    match cols[i]? with
    | some c => colIndex cols (pathName (c.path.map strBytes)) == some i
    | none => true

theorem colsResolve_of_check (cols : List Col) (h : colsResolveB cols = true) : ColsResolve cols := by
  intro i c hc
  have := List.all_eq_true.mp h i (List.mem_range.mpr (List.getElem?_eq_some_iff.mp hc).1)
  rw [hc] at this
  simpa using this

/-- the body of the inner loop of `Pages()` -/
def pagesStep (cols : List Col) (acc : List (List PageMeta)) (ch : ChunkMeta) : R (List (List PageMeta)) :=
  match ch.md with
  | none => .error .panic
  | some m =>
    match colIndex cols (pathName m.path) with
    | none => .error .err
    | some i => .ok (acc.modify i (· ++ [{ n := m.numValues, size := m.totalCompressed, codec := m.codec }]))

theorem pagesOf_eq (cols : List Col) (f : FMD) :
    pagesOf cols f = f.rowGroups.foldlM (fun acc rg => rg.columns.foldlM (pagesStep cols) acc)
      (List.replicate cols.length []) := rfl

theorem zipWith_snoc_append {α : Type} : ∀ (acc : List (List α)) (ps : List α) (T : List (List α)),
    List.zipWith (· ++ ·) (List.zipWith (fun a p => a ++ [p]) acc ps) T =
      List.zipWith (· ++ ·) acc (List.zipWith (· :: ·) ps T)
  | [], _, _ => by simp
  | _ :: _, [], _ => by simp
  | _ :: _, _ :: _, [] => by simp
  | a :: acc, p :: ps, t :: T => by simp [zipWith_snoc_append acc ps T]

theorem zipWith_append_replicate_nil {α : Type} : ∀ (acc : List (List α)) (n : Nat), acc.length = n →
    List.zipWith (· ++ ·) acc (List.replicate n []) = acc
  | [], _, _ => by simp
  | a :: acc, n, h => by
    cases n with
    | zero => simp at h
    | succ n => simp [List.replicate_succ, zipWith_append_replicate_nil acc n (by simpa using h)]

theorem zipWith_nil_append {α : Type} : ∀ (n : Nat) (X : List (List α)), X.length = n →
    List.zipWith (· ++ ·) (List.replicate n []) X = X
  | 0, X, h => by
    have : X = [] := List.eq_nil_of_length_eq_zero h
    subst this; simp
  | n+1, X, h => by
    cases X with
    | nil => simp at h
    | cons x X => simp [List.replicate_succ, zipWith_nil_append n X (by simpa using h)]

theorem Framed.readMetaData {data : Bytes} {f : FMD} {file : Bytes} (h : Framed data f file) :
    readMetaData file = .ok f := by
  obtain ⟨v, hv, hn, hf, hfile⟩ := h
  obtain ⟨hlen, _, h2, h3, h4⟩ := trailer (m := par1) rfl data v.enc hn hfile
  unfold PQ.readMetaData
  rw [if_neg (by omega), if_neg (by rw [h2]; simp [par1]), h3, if_neg (by omega), readStruct_at v hv h4]
  simp only [hf]

/-- `ch` is the footer's `ColumnChunk` for the chunk `g`: its column's path, its `num_values`, size and codec -/
def MetaFor (g : GChunk) (ch : ChunkMeta) : Prop :=
  ∃ m, ch.md = some m ∧ m.path = g.col.path.map strBytes ∧ m.numValues = g.pg.n ∧ m.totalCompressed = g.pg.size ∧
    m.codec = g.pg.codec

/-- the footer's `ColumnChunk`s of a row group, chunk by chunk -/
def MetasFor : List GChunk → List ChunkMeta → Prop
  | [], [] => True
  | g :: gs, m :: ms => MetaFor g m ∧ MetasFor gs ms
  | _, _ => False

/-- the bytes of the chunks `gs`, back to back -/
def gBytes (gs : List GChunk) : Bytes := gs.flatMap (·.bytes)

theorem gBytes_nil : gBytes [] = [] := rfl
theorem gBytes_cons (g : GChunk) (gs : List GChunk) : gBytes (g :: gs) = g.bytes ++ gBytes gs := by
  simp [gBytes]

/-- the state inside the chunk walk of `readRowGroup`: the chunks `done` are loaded, `todo` are not; `tailP` holds,
per column, the pages of the later row groups; everything else is as in `base` -/
def loadingAt (base : RState) (file : Bytes) (pos : Nat) (done todo : List GChunk) (tailP : List (List PageMeta)) : RState :=
  { base with src := ⟨file, pos⟩,
              pages := tailP.take done.length ++ List.zipWith (· :: ·) (todo.map (·.pg)) (tailP.drop done.length),
              bufs := done.map (fun g => colBufOf g.col g.es) ++ List.replicate todo.length {} }

theorem readRowGroup_go_cons (base : RState) {dc : Decomp} (hdc : base.dc = dc) (file : Bytes) (pos : Nat)
    (done : List GChunk) (g : GChunk) (todo : List GChunk) (tailP : List (List PageMeta)) (ch : ChunkMeta)
    (metas : List ChunkMeta) (hm : MetaFor g ch) (hres : ColsResolve base.cols)
    (hcols : base.cols = (done ++ g :: todo).map (·.col)) (hP : done.length < tailP.length) :
    RState.readRowGroup.go (ch :: metas) (loadingAt base file pos done (g :: todo) tailP) =
      match readChunk dc g.col g.pg {} ⟨file, pos⟩ with
      | .error e => .error e
      | .ok (buf, src) => RState.readRowGroup.go metas
          { loadingAt base file pos (done ++ [g]) todo tailP with
            src := src, bufs := done.map (fun g => colBufOf g.col g.es) ++ buf :: List.replicate todo.length {} } := by
  obtain ⟨m, hmd, hpath, _⟩ := hm
  have hget : base.cols[done.length]? = some g.col := by rw [hcols]; simp
  have hlen : (tailP.take done.length).length = done.length := by rw [List.length_take, Nat.min_eq_left (Nat.le_of_lt hP)]
  have hpages : ∀ X, tailP.take (done.length + 1) ++ X = tailP.take done.length ++ tailP[done.length] :: X := fun X => by
    rw [List.take_succ_eq_append_getElem hP, List.append_assoc, List.singleton_append]
  simp only [loadingAt]
  rw [RState.readRowGroup.go, List.drop_eq_getElem_cons hP]
  -- `List.getElem_cons_drop` is a simp lemma and would fold the `tailP[done.length] :: tailP.drop _` just exposed back
  -- into `tailP.drop done.length`, on which the `zipWith` does not step
  cases hrc : readChunk dc g.col g.pg {} ⟨file, pos⟩ <;>
    simp [hdc, hmd, hpath, hres _ _ hget, hget, hrc, List.getD_eq_getElem?_getD, List.replicate_succ,
      List.set_append_right, hlen, hpages, -List.getElem_cons_drop]

/-- the chunk walk over chunks that are read back, whatever follows them (`rest`): the walk goes on behind them -/
theorem readRowGroup_go_prefix (base : RState) {dc : Decomp} (hdc : base.dc = dc) (hres : ColsResolve base.cols)
    (file : Bytes) (rest : List GChunk) (tailP : List (List PageMeta)) :
    ∀ (good : List GChunk) (metas : List ChunkMeta) (done : List GChunk) (pos : Nat) (post : Bytes),
      MetasFor (good ++ rest) metas → base.cols = (done ++ (good ++ rest)).map (·.col) →
      (done ++ good).length ≤ tailP.length → (∀ g ∈ good, ChunkReads dc g) → file.drop pos = gBytes good ++ post →
      ∃ metas', MetasFor rest metas' ∧
        RState.readRowGroup.go metas (loadingAt base file pos done (good ++ rest) tailP) =
          RState.readRowGroup.go metas' (loadingAt base file (pos + (gBytes good).length) (done ++ good) rest tailP)
  | [], metas, done, pos, post, hm, _, _, _, _ => ⟨metas, hm, by simp [gBytes_nil]⟩
  | g :: good, metas, done, pos, post, hm, hcols, hP, hg, hl => by
    cases metas with
    | nil => simp [MetasFor] at hm
    | cons ch metas =>
      rw [gBytes_cons, List.append_assoc] at hl
      obtain ⟨metas', h1, h2⟩ := readRowGroup_go_prefix base hdc hres file rest tailP good metas (done ++ [g])
        (pos + g.bytes.length) post hm.2 (by simpa using hcols) (by simpa using hP)
        (fun q hq => hg q (List.mem_cons_of_mem _ hq)) (drop_add_of_drop_eq hl)
      refine ⟨metas', h1, ?_⟩
      rw [List.cons_append, readRowGroup_go_cons base hdc file pos done g (good ++ rest) tailP ch metas hm.1 hres hcols
        (by simp at hP; omega), hg g List.mem_cons_self file pos _ hl]
      simpa [loadingAt, gBytes_cons, Nat.add_assoc] using h2

/-- per column, the `PageMeta`s of its chunks in the remaining row groups -/
def pagesForG (n : Nat) : List (List GChunk) → List (List PageMeta)
  | [] => List.replicate n []
  | g :: rest => List.zipWith (· :: ·) (g.map (·.pg)) (pagesForG n rest)

theorem pagesForG_length (n : Nat) : ∀ (gs : List (List GChunk)), (∀ g ∈ gs, g.length = n) →
    (pagesForG n gs).length = n
  | [], _ => by simp [pagesForG]
  | g :: rest, h => by
    have ih := pagesForG_length n rest (fun q hq => h q (List.mem_cons_of_mem _ hq))
    simp [pagesForG, ih, h g List.mem_cons_self]

theorem pagesStep_gen (cols : List Col) (hres : ColsResolve cols) :
    ∀ (todo : List GChunk) (metas : List ChunkMeta) (done : List GChunk) (doneA todoA : List (List PageMeta)),
      MetasFor todo metas → cols = (done ++ todo).map (·.col) → doneA.length = done.length → todoA.length = todo.length →
      metas.foldlM (pagesStep cols) (doneA ++ todoA) =
        .ok (doneA ++ List.zipWith (fun a p => a ++ [p]) todoA (todo.map (·.pg)))
  | [], metas, _, _, todoA, hm, _, _, htl => by
    cases todoA with
    | cons _ _ => simp at htl
    | nil =>
      cases metas with
      | cons _ _ => simp [MetasFor] at hm
      | nil => simp [pure, Except.pure]
  | g :: todo, metas, done, doneA, todoA, hm, hcols, hA, htl => by
    cases todoA with
    | nil => simp at htl
    | cons a todoA =>
      cases metas with
      | nil => simp [MetasFor] at hm
      | cons ch metas =>
        obtain ⟨⟨m, hmd, hpath, hnv, htc, hcodec⟩, hm2⟩ := hm
        have hidx := hres done.length g.col (by rw [hcols]; simp)
        have ih := pagesStep_gen cols hres todo metas (done ++ [g]) (doneA ++ [a ++ [g.pg]]) todoA hm2 (by simpa using hcols)
          (by simp [hA]) (by simpa using htl)
        simp only [List.append_assoc, List.singleton_append] at ih
        simp only [List.foldlM_cons, pagesStep, hmd, hpath, hidx, bind, Except.bind, hnv, htc, hcodec]
        rw [← hA, modify_append_length, List.map_cons, List.zipWith_cons_cons]
        exact ih

/-- the footer's row groups, row group by row group -/
def RGsFor : List (List GChunk) → List RGMeta → Prop
  | [], [] => True
  | g :: gs, m :: ms => MetasFor g m.columns ∧ RGsFor gs ms
  | _, _ => False

theorem pagesOf_fold_gen (cols : List Col) (hres : ColsResolve cols) :
    ∀ (gs : List (List GChunk)) (rgms : List RGMeta) (acc : List (List PageMeta)), RGsFor gs rgms →
      acc.length = cols.length → (∀ g ∈ gs, g.map (·.col) = cols) →
      rgms.foldlM (fun acc rg => rg.columns.foldlM (pagesStep cols) acc) acc =
        .ok (List.zipWith (· ++ ·) acc (pagesForG cols.length gs))
  | [], rgms, acc, hm, hacc, _ => by
    cases rgms with
    | cons _ _ => simp [RGsFor] at hm
    | nil => simp [pagesForG, pure, Except.pure, zipWith_append_replicate_nil acc _ hacc]
  | g :: rest, rgms, acc, hm, hacc, h => by
    cases rgms with
    | nil => simp [RGsFor] at hm
    | cons rgm rgms =>
      have hc := h g List.mem_cons_self
      have hlen : g.length = cols.length := by rw [← hc, List.length_map]
      have h1 := pagesStep_gen cols hres g rgm.columns [] [] acc hm.1 hc.symm rfl (by omega)
      have ih := pagesOf_fold_gen cols hres rest rgms (List.zipWith (fun a p => a ++ [p]) acc (g.map (·.pg))) hm.2
        (by simp [hacc, hlen]) (fun q hq => h q (List.mem_cons_of_mem _ hq))
      simp only [List.nil_append] at h1
      simp only [List.foldlM_cons, h1, bind, Except.bind, ih, pagesForG, zipWith_snoc_append]

theorem pagesOf_gen (cols : List Col) (hres : ColsResolve cols) (gs : List (List GChunk)) (f : FMD)
    (hm : RGsFor gs f.rowGroups) (h : ∀ g ∈ gs, g.map (·.col) = cols) :
    pagesOf cols f = .ok (pagesForG cols.length gs) := by
  rw [pagesOf_eq]
  rw [pagesOf_fold_gen cols hres gs f.rowGroups _ hm (by simp) h, zipWith_nil_append]
  apply pagesForG_length
  intro g hg
  rw [← h g hg, List.length_map]

/-- one row group: its records, its chunks, its footer entry -/
structure GRG where
  recs : List Rec
  chunks : List GChunk
  rgm : RGMeta

/-- the footer lists the row group: one `ColumnChunk` per column, in the columns' order -/
structure GRG.Listed (cols : List Col) (g : GRG) : Prop where
  hcols : g.chunks.map (·.col) = cols
  hmetas : MetasFor g.chunks g.rgm.columns

/-- a row group the reader reads back: besides being listed, its footer entry has the row count, the typed `Read`
returns every chunk's entries, and these are, column by column, the entries of the records `g.recs`, each of them a
record as `Scan` needs it -/
structure GRG.OK (dc : Decomp) (cols : List Col) (g : GRG) : Prop extends GRG.Listed cols g where
  hrows : g.rgm.numRows = ((g.recs.length : Nat) : Int)
  hreads : ∀ ch ∈ g.chunks, ChunkReads dc ch
  hbufs : g.chunks.map (fun ch => colBufOf ch.col ch.es) = bufsOf cols g.recs
  hrecs : ∀ r ∈ g.recs, ∀ x ∈ cols.zipIdx, RecRd x.1 (r.getD x.2 [])

/-- the typed `Read` started at the chunk's first byte returns an error — wherever the chunk lies in the file
(`file.drop pos = g.bytes ++ post`), whatever the buffer holds -/
def ChunkFails (dc : Decomp) (g : GChunk) : Prop :=
  ∀ (file : Bytes) (pos : Nat) (post : Bytes) (buf : ColBuf), file.drop pos = g.bytes ++ post →
    readChunk dc g.col g.pg buf ⟨file, pos⟩ = .error .err

/-- a row group the reader refuses: it is listed, the chunks up to some column are read back, the typed `Read` of the
next one returns an error -/
structure GRG.Bad (dc : Decomp) (cols : List Col) (g : GRG) : Prop extends GRG.Listed cols g where
  hfail : ∃ chB bad chA, g.chunks = chB ++ bad :: chA ∧ (∀ ch ∈ chB, ChunkReads dc ch) ∧ ChunkFails dc bad

/-- the data part of a file holding the row groups `gs` (`Framed`): their chunks back to back -/
def dataOf (gs : List GRG) : Bytes := gs.flatMap fun g => gBytes g.chunks

theorem dataOf_cons (g : GRG) (gs : List GRG) : dataOf (g :: gs) = gBytes g.chunks ++ dataOf gs := by
  simp [dataOf]

theorem dataOf_append (a b : List GRG) : dataOf (a ++ b) = dataOf a ++ dataOf b := by
  simp [dataOf]

theorem rgsFor_of_listed (cols : List Col) : ∀ (gs : List GRG), (∀ g ∈ gs, g.Listed cols) →
    RGsFor (gs.map (·.chunks)) (gs.map (·.rgm))
  | [], _ => by simp [RGsFor]
  | g :: gs, h => by
    simp only [List.map_cons, RGsFor]
    exact ⟨(h g List.mem_cons_self).hmetas, rgsFor_of_listed cols gs (fun q hq => h q (List.mem_cons_of_mem _ hq))⟩

theorem pagesForG_length_listed (cols : List Col) (gs : List GRG) (h : ∀ g ∈ gs, g.Listed cols) :
    (pagesForG cols.length (gs.map (·.chunks))).length = cols.length := by
  apply pagesForG_length
  intro q hq
  obtain ⟨g, hg, rfl⟩ := List.mem_map.mp hq
  rw [← (h g hg).hcols, List.length_map]

/-- the number of records the row groups `gs` hold — not `recordsIn` of Model/Spec.lean, which counts the records among
the entries of one column -/
def recsIn (gs : List GRG) : Nat := (gs.map (·.recs.length)).sum

theorem recsIn_cons (g : GRG) (gs : List GRG) : recsIn (g :: gs) = g.recs.length + recsIn gs := by
  simp [recsIn]

theorem recsIn_append (a b : List GRG) : recsIn (a ++ b) = recsIn a + recsIn b := by
  simp [recsIn]

theorem length_flatMap_recs (gs : List GRG) : (gs.flatMap (·.recs)).length = recsIn gs := List.length_flatMap

section
variable (dc : Decomp) (cols : List Col) (N : Int) (file : Bytes)

/-- **The reader's state between two row groups of `file`**: the row groups `gs` are still to be loaded, from
offset `pos` on; the page lists and the row-group list are those of `gs`; no error so far.  Every state the
`Next`/`Scan` loop goes through on a well-formed file has this form. -/
def readerAt (pos : Nat) (gs : List GRG) (cu rc rn : Int) (bufs : List ColBuf) (fs : Bool) : RState :=
  { cols := cols, dc := dc, src := ⟨file, pos⟩, rows := N, cursor := cu, rgCursor := rc, rgCount := rn,
    pages := pagesForG cols.length (gs.map (·.chunks)), rowGroups := gs.map (·.rgm), bufs := bufs,
    err := false, fieldsSet := fs }

theorem openReader_at (hres : ColsResolve cols) (gs : List GRG) (hgs : ∀ g ∈ gs, g.Listed cols)
    (f : FMD) (hfr : Framed (dataOf gs) f file) (hrg : f.rowGroups = gs.map (·.rgm)) :
    openReader cols dc file =
      (readerAt dc cols f.numRows file 4 gs 0 0 0 (List.replicate cols.length {}) false).readRowGroup := by
  rw [openReader_eq_readMetaData, hfr.readMetaData]
  simp only
  cases gs with
  | nil => simp [hrg, readerAt, pagesForG]
  | cons g rest =>
    have hne : f.rowGroups.isEmpty = false := by rw [hrg]; rfl
    rw [hne, pagesOf_gen cols hres ((g :: rest).map (·.chunks)) f (by rw [hrg]; exact rgsFor_of_listed cols _ hgs)
      (by intro q hq; obtain ⟨g', hg', rfl⟩ := List.mem_map.mp hq; exact (hgs g' hg').hcols)]
    simp only [Bool.false_eq_true, if_false, hrg, readerAt]

theorem readRowGroup_listed (g : GRG) (gs : List GRG) (hg : g.Listed cols) (pos : Nat) (cu rc rn : Int)
    (bufs : List ColBuf) (fs : Bool) :
    (readerAt dc cols N file pos (g :: gs) cu rc rn bufs fs).readRowGroup =
      (RState.readRowGroup.go g.rgm.columns
        (loadingAt (readerAt dc cols N file pos (g :: gs) cu 0 g.rgm.numRows bufs true) file pos [] g.chunks
          (pagesForG cols.length (gs.map (·.chunks))))).map fun st => { st with rowGroups := gs.map (·.rgm) } := by
  have hlen : cols.length = g.chunks.length := by rw [← hg.hcols, List.length_map]
  unfold RState.readRowGroup
  simp only [readerAt, loadingAt, List.map_cons, pagesForG, hlen, List.map_nil, List.nil_append, List.length_nil,
    List.take_zero, List.drop_zero]
  cases RState.readRowGroup.go g.rgm.columns _ <;> rfl

theorem readRowGroup_at (hres : ColsResolve cols) (g : GRG) (gs : List GRG) (hg : g.OK dc cols)
    (hgs : ∀ g' ∈ gs, g'.Listed cols) (pos : Nat) (post : Bytes) (hl : file.drop pos = dataOf (g :: gs) ++ post)
    (cu rc rn : Int) (bufs : List ColBuf) (fs : Bool) :
    (readerAt dc cols N file pos (g :: gs) cu rc rn bufs fs).readRowGroup =
      .ok (readerAt dc cols N file (pos + (gBytes g.chunks).length) gs cu 0 ((g.recs.length : Nat) : Int)
        (bufsOf cols g.recs) true) := by
  rw [dataOf_cons, List.append_assoc] at hl
  have hP : (pagesForG cols.length (gs.map (·.chunks))).length = g.chunks.length := by
    rw [pagesForG_length_listed cols gs hgs, ← hg.hcols, List.length_map]
  obtain ⟨metas', h1, h2⟩ := readRowGroup_go_prefix (readerAt dc cols N file pos (g :: gs) cu 0 g.rgm.numRows bufs true)
    rfl hres file [] (pagesForG cols.length (gs.map (·.chunks))) g.chunks g.rgm.columns [] pos _ (by simpa using hg.hmetas)
    (by simpa [readerAt] using hg.hcols.symm) (by simp [hP]) hg.hreads hl
  cases metas' with
  | cons _ _ => simp [MetasFor] at h1
  | nil =>
    simp only [List.append_nil] at h2
    rw [readRowGroup_listed dc cols N file g gs hg.toListed, h2, RState.readRowGroup.go]
    simp [Except.map, loadingAt, readerAt, hg.hbufs, hg.hrows, List.take_of_length_le (Nat.le_of_eq hP)]

theorem next_within_at (pos : Nat) (gs : List GRG) (cu rc rn : Int) (bufs : List ColBuf) (fs : Bool)
    (h2 : cu < N) (h3 : rc < rn) :
    (readerAt dc cols N file pos gs cu rc rn bufs fs).next =
      .ok (true, readerAt dc cols N file pos gs (cu + 1) (rc + 1) rn bufs fs) :=
  next_within _ rfl h2 h3

theorem readRowGroup_bad_at (hres : ColsResolve cols) (g : GRG) (gs : List GRG) (hbad : g.Bad dc cols)
    (hgs : ∀ g' ∈ gs, g'.Listed cols) (pos : Nat) (post : Bytes) (hl : file.drop pos = dataOf (g :: gs) ++ post)
    (cu rc rn : Int) (bufs : List ColBuf) (fs : Bool) :
    (readerAt dc cols N file pos (g :: gs) cu rc rn bufs fs).readRowGroup = .error .err := by
  obtain ⟨chB, bad, chA, hch, hB, hF⟩ := hbad.hfail
  have hP : (pagesForG cols.length (gs.map (·.chunks))).length = (chB ++ bad :: chA).length := by
    rw [pagesForG_length_listed cols gs hgs, ← hbad.hcols, hch, List.length_map]
  rw [dataOf_cons, hch, show gBytes (chB ++ bad :: chA) = gBytes chB ++ (bad.bytes ++ gBytes chA) by simp [gBytes]] at hl
  simp only [List.append_assoc] at hl
  have hmetas := hbad.hmetas
  have hcols := hbad.hcols
  rw [readRowGroup_listed dc cols N file g gs hbad.toListed]
  rw [hch] at hmetas hcols ⊢
  obtain ⟨metas', h1, h2⟩ := readRowGroup_go_prefix (readerAt dc cols N file pos (g :: gs) cu 0 g.rgm.numRows bufs true)
    rfl hres file (bad :: chA) (pagesForG cols.length (gs.map (·.chunks))) chB g.rgm.columns [] pos _ hmetas
    (by simpa [readerAt] using hcols.symm) (by rw [hP]; simp) hB hl
  cases metas' with
  | nil => simp [MetasFor] at h1
  | cons ch metas' =>
    rw [h2, readRowGroup_go_cons _ (dc := dc) rfl file _ _ bad chA _ ch metas' h1.1 hres
      (by simpa [readerAt] using hcols.symm) (by rw [hP]; simp), hF file _ _ {} (drop_add_of_drop_eq hl)]
    rfl

/-- `Next` at the end of a row group passes over a row group without records -/
theorem loadSkip_empty (hres : ColsResolve cols) (e : GRG) (he : e.OK dc cols) (he0 : e.recs = []) (gs : List GRG)
    (hne : gs ≠ []) (hgs : ∀ g ∈ gs, g.Listed cols) (pos : Nat) (post : Bytes)
    (hl : file.drop pos = dataOf (e :: gs) ++ post) (cu rc rn : Int) (bufs : List ColBuf) (fs : Bool) :
    (readerAt dc cols N file pos (e :: gs) cu rc rn bufs fs).loadSkip =
      (readerAt dc cols N file (pos + (gBytes e.chunks).length) gs cu 0 0 (bufsOf cols []) true).loadSkip := by
  rw [RState.loadSkip, readRowGroup_at dc cols N file hres e gs he hgs pos post hl, he0]
  exact skipEmpty_eq_loadSkip _ rfl (by simpa [readerAt] using hne)

/-- … and over any number of them (`E`), up to a row group `g` that is then to be loaded -/
theorem loadSkip_empties (hres : ColsResolve cols) (g : GRG) (gs : List GRG) (hgs : ∀ x ∈ g :: gs, x.Listed cols)
    (cu : Int) (post : Bytes) :
    ∀ (E : List GRG), (∀ e ∈ E, e.OK dc cols ∧ e.recs = []) → ∀ (pos : Nat),
      file.drop pos = dataOf (E ++ g :: gs) ++ post → ∀ (rc rn : Int) (bufs : List ColBuf) (fs : Bool),
      ∃ (rc' rn' : Int) (bufs' : List ColBuf) (fs' : Bool),
        (readerAt dc cols N file pos (E ++ g :: gs) cu rc rn bufs fs).loadSkip =
          (readerAt dc cols N file (pos + (dataOf E).length) (g :: gs) cu rc' rn' bufs' fs').loadSkip
  | [], _, pos, _, rc, rn, bufs, fs => ⟨rc, rn, bufs, fs, by simp [dataOf]⟩
  | e :: E, hE, pos, hl, rc, rn, bufs, fs => by
    obtain ⟨he, he0⟩ := hE e List.mem_cons_self
    have hE' : ∀ x ∈ E, x.OK dc cols ∧ x.recs = [] := fun x hx => hE x (List.mem_cons_of_mem _ hx)
    rw [List.cons_append] at hl
    have hl' := hl
    rw [dataOf_cons, List.append_assoc] at hl'
    obtain ⟨rc', rn', bufs', fs', h⟩ := loadSkip_empties hres g gs hgs cu post E hE' _ (drop_add_of_drop_eq hl') 0 0
      (bufsOf cols []) true
    refine ⟨rc', rn', bufs', fs', ?_⟩
    rw [List.cons_append, loadSkip_empty dc cols N file hres e he he0 (E ++ g :: gs) (by simp)
      (List.forall_mem_append.mpr ⟨fun x hx => (hE' x hx).1.toListed, hgs⟩) pos post hl, h, dataOf_cons,
      List.length_append, Nat.add_assoc]

/-- **`Next` at the end of a row group**: the row groups `E` without records are loaded and passed over, the
first one that holds records is loaded and its first row is counted. -/
theorem next_boundary_at (hres : ColsResolve cols) (E : List GRG) (hE : ∀ e ∈ E, e.OK dc cols ∧ e.recs = [])
    (g : GRG) (hg : g.OK dc cols) (hne : g.recs ≠ []) (rest : List GRG) (hrest : ∀ g' ∈ rest, g'.Listed cols)
    (pos : Nat) (post : Bytes) (hl : file.drop pos = dataOf (E ++ g :: rest) ++ post) (cu rc rn : Int) (bufs : List ColBuf)
    (fs : Bool)
    (h2 : cu < N) (h3 : rc ≥ rn) :
    (readerAt dc cols N file pos (E ++ g :: rest) cu rc rn bufs fs).next =
      .ok (true, readerAt dc cols N file (pos + (dataOf (E ++ [g])).length) rest (cu + 1) (0 + 1)
        ((g.recs.length : Nat) : Int) (bufsOf cols g.recs) true) := by
  obtain ⟨rc', rn', bufs', fs', h⟩ := loadSkip_empties dc cols N file hres g rest
    (List.forall_mem_cons.mpr ⟨hg.toListed, hrest⟩) cu post E hE pos hl rc rn bufs fs
  have hpos : (g.recs.length : Int) ≠ 0 := by have := List.length_pos_iff.mpr hne; omega
  rw [dataOf_append, List.append_assoc] at hl
  rw [next_boundary (readerAt dc cols N file pos (E ++ g :: rest) cu rc rn bufs fs) rfl h2 h3, h,
    loadSkip_of_loaded (readRowGroup_at dc cols N file hres g rest hg hrest _ post (drop_add_of_drop_eq hl) ..) hpos]
  simp [readerAt, dataOf, Nat.add_assoc]

/-- **The state at the end of a row group**: all rows of the loaded row group are delivered, `cu` rows in
all; in front lie row groups without records (which `Next` will pass over), then `T`. -/
def Boundary (T : List GRG) (cu : Int) (st : RState) : Prop :=
  ∃ (E : List GRG) (pos : Nat) (post : Bytes) (rc rn : Int) (bufs : List ColBuf) (fs : Bool),
    st = readerAt dc cols N file pos (E ++ T) cu rc rn bufs fs ∧ (∀ e ∈ E, e.OK dc cols ∧ e.recs = []) ∧
    file.drop pos = dataOf (E ++ T) ++ post ∧ rc ≥ rn

/-- the rows of a loaded row group that are not yet delivered -/
theorem delivers_rows : ∀ (rs : List Rec), (∀ r ∈ rs, ∀ x ∈ cols.zipIdx, RecRd x.1 (r.getD x.2 [])) →
    ∀ (pos : Nat) (gs : List GRG) (cu rc rn cu' : Int), rn = rc + (rs.length : Nat) → cu' = cu + (rs.length : Nat) →
    cu' ≤ N →
    Delivers (readerAt dc cols N file pos gs cu rc rn (bufsOf cols rs) true) (rs.map (rowOf cols.length)) 0
      (readerAt dc cols N file pos gs cu' rn rn (bufsOf cols []) true)
  | [], _, pos, gs, cu, rc, rn, cu', hrn, hcu, _ => by
    obtain rfl : rn = rc := by simpa using hrn
    obtain rfl : cu' = cu := by simpa using hcu
    exact .nil _
  | r :: rs, hrs, pos, gs, cu, rc, rn, cu', hrn, hcu, hN => by
    simp only [List.length_cons, Int.natCast_add, Int.natCast_one] at hrn hcu
    exact .cons (next_within_at dc cols N file pos gs cu rc rn (bufsOf cols (r :: rs)) true (by omega) (by omega)) rfl rfl
      (scanAll_bufsOf cols r rs hrs)
      (delivers_rows rs (fun r' hr' => hrs r' (List.mem_cons_of_mem _ hr')) pos gs (cu + 1) (rc + 1) rn cu' (by omega)
        (by omega) hN)
      (by rw [PQ.C10.inside_not_touching (readerAt dc cols N file pos gs cu rc rn (bufsOf cols (r :: rs)) true)
        (show rc < rn by omega)]; rfl)

theorem Boundary.next_bad (hres : ColsResolve cols) {gbad : GRG} {gsA : List GRG} {cu : Int} {st : RState}
    (h : Boundary dc cols N file (gbad :: gsA) cu st) (hbad : gbad.Bad dc cols) (hA : ∀ g ∈ gsA, g.Listed cols)
    (hcu : cu < N) : st.next = .ok (false, { st with err := true }) := by
  obtain ⟨E, pos, post, rc, rn, bufs, fs, rfl, hE, hl, h3⟩ := h
  obtain ⟨rc', rn', bufs', fs', h⟩ := loadSkip_empties dc cols N file hres gbad gsA
    (List.forall_mem_cons.mpr ⟨hbad.toListed, hA⟩) cu post E hE pos hl rc rn bufs fs
  rw [dataOf_append, List.append_assoc] at hl
  rw [next_boundary (readerAt dc cols N file pos (E ++ gbad :: gsA) cu rc rn bufs fs) rfl hcu h3, h,
    loadSkip_of_error (readRowGroup_bad_at dc cols N file hres gbad gsA hbad hA _ post (drop_add_of_drop_eq hl) ..)]

/-- the row groups among `gs` whose load is a `Next` call of its own: those that hold records -/
def loadsOf (gs : List GRG) : Nat := (gs.filter fun g => !g.recs.isEmpty).length

/-- **The `Next`/`Scan` loop over row groups in order, from the end of a row group on**: the records of the
row groups `gs` are delivered, one `Next` per record, `loadsOf gs` of them loading a row group; whatever
follows (`T`) is not touched. -/
theorem Boundary.delivers (hres : ColsResolve cols) (T : List GRG) (hT : ∀ g ∈ T, g.Listed cols) :
    ∀ (gs : List GRG), (∀ g ∈ gs, g.OK dc cols) → ∀ (cu cu' : Int) (st : RState),
      Boundary dc cols N file (gs ++ T) cu st →
      cu' = cu + (recsIn gs : Nat) → cu' ≤ N →
      ∃ st', Boundary dc cols N file T cu' st' ∧
        Delivers st ((gs.flatMap (·.recs)).map (rowOf cols.length)) (loadsOf gs) st'
  | [], _, cu, cu', st, hb, hcu, _ => by
    obtain rfl : cu' = cu := by simpa [recsIn] using hcu
    exact ⟨st, hb, .nil _⟩
  | g :: gs, hgs, cu, cu', st, hb, hcu, hN => by
    rw [List.cons_append] at hb
    obtain ⟨E, pos, post, rc, rn, bufs, fs, rfl, hE, hl, h3⟩ := hb
    have hg := hgs g List.mem_cons_self
    have hgs' : ∀ x ∈ gs, x.OK dc cols := fun x hx => hgs x (List.mem_cons_of_mem _ hx)
    rw [recsIn_cons] at hcu
    cases hbr : g.recs with
    | nil =>
      -- a row group without records stays in front of the boundary
      rw [hbr] at hcu
      obtain ⟨st', hb, hd⟩ := Boundary.delivers hres T hT gs hgs' cu cu'
        (readerAt dc cols N file pos (E ++ g :: (gs ++ T)) cu rc rn bufs fs)
        ⟨E ++ [g], pos, post, rc, rn, bufs, fs, by simp,
          List.forall_mem_append.mpr ⟨hE, by simpa using ⟨hg, hbr⟩⟩, by simpa using hl, h3⟩ (by simpa using hcu) hN
      exact ⟨st', hb, by simpa [loadsOf, hbr] using hd⟩
    | cons r rs =>
      rw [hbr] at hcu
      simp only [List.length_cons, Int.natCast_add, Int.natCast_one] at hcu
      have hn := next_boundary_at dc cols N file hres E hE g hg (by rw [hbr]; simp) (gs ++ T)
        (List.forall_mem_append.mpr ⟨fun x hx => (hgs' x hx).toListed, hT⟩) pos post hl cu rc rn bufs fs (by omega) h3
      have hrecs := hg.hrecs
      rw [hbr] at hrecs hn
      have hl' : file.drop (pos + (dataOf (E ++ [g])).length) = dataOf ([] ++ (gs ++ T)) ++ post := by
        rw [show E ++ g :: (gs ++ T) = (E ++ [g]) ++ (gs ++ T) by simp, dataOf_append, List.append_assoc] at hl
        exact drop_add_of_drop_eq hl
      have hrows := delivers_rows dc cols N file rs (fun r' hr' => hrecs r' (List.mem_cons_of_mem _ hr'))
        (pos + (dataOf (E ++ [g])).length) (gs ++ T) (cu + 1) (0 + 1) (((r :: rs).length : Nat) : Int) (cu + 1 + (rs.length : Nat))
        (by simp only [List.length_cons, Int.natCast_add, Int.natCast_one]; omega) rfl (by omega)
      obtain ⟨st', hb, hd⟩ := Boundary.delivers hres T hT gs hgs' (cu + 1 + (rs.length : Nat)) cu' _
        ⟨[], _, post, _, _, _, _, rfl, by simp, hl', Int.le_refl _⟩ (by omega) hN
      refine ⟨st', hb, ?_⟩
      have ht : (readerAt dc cols N file pos (E ++ g :: (gs ++ T)) cu rc rn bufs fs).touches = true :=
        touches_boundary _ rfl (by show cu < N; omega) h3 (by simp [readerAt])
      have := Delivers.cons hn rfl rfl (scanAll_bufsOf cols r rs hrecs) (hrows.append hd) (by rw [ht])
      simpa [loadsOf, hbr, Nat.add_comm] using this

/-- … from a loaded row group with the records `rs` not yet delivered -/
theorem delivers_loaded (hres : ColsResolve cols) (T : List GRG) (hT : ∀ g ∈ T, g.Listed cols)
    (gs : List GRG) (hgs : ∀ g ∈ gs, g.OK dc cols) (rs : List Rec)
    (hrs : ∀ r ∈ rs, ∀ x ∈ cols.zipIdx, RecRd x.1 (r.getD x.2 []))
    (pos : Nat) (post : Bytes) (cu rc rn : Int) (hl : file.drop pos = dataOf (gs ++ T) ++ post)
    (hrn : rn = rc + (rs.length : Nat))
    (hN : cu + (rs.length : Nat) + (recsIn gs : Nat) ≤ N) :
    ∃ st', Boundary dc cols N file T (cu + (rs.length : Nat) + (recsIn gs : Nat)) st' ∧
      Delivers (readerAt dc cols N file pos (gs ++ T) cu rc rn (bufsOf cols rs) true)
        ((rs ++ gs.flatMap (·.recs)).map (rowOf cols.length)) (loadsOf gs) st' := by
  obtain ⟨st', hb, hd⟩ := Boundary.delivers dc cols N file hres T hT gs hgs (cu + (rs.length : Nat)) _ _
    ⟨[], pos, post, rn, rn, bufsOf cols [], true, rfl, by simp, hl, Int.le_refl _⟩ rfl hN
  refine ⟨st', hb, ?_⟩
  have := (delivers_rows dc cols N file rs hrs pos (gs ++ T) cu rc rn _ hrn rfl (by omega)).append hd
  simpa using this

theorem Boundary.readLoop_done {cu : Int} {st : RState} (h : Boundary dc cols N file [] cu st) (hcu : cu ≥ N) (fuel : Nat)
    (acc : List Row) : readLoop (fuel + 1) st acc = some acc := by
  obtain ⟨E, pos, post, rc, rn, bufs, fs, rfl, _, _, _⟩ := h
  exact PQ.readLoop_done fuel _ acc rfl hcu

theorem openReader_cons (hres : ColsResolve cols) (g : GRG) (rest : List GRG) (hg : g.OK dc cols)
    (hrest : ∀ g' ∈ rest, g'.Listed cols) (f : FMD) (hfr : Framed (dataOf (g :: rest)) f file)
    (hrg : f.rowGroups = (g :: rest).map (·.rgm)) :
    openReader cols dc file =
      .ok (readerAt dc cols f.numRows file (4 + (gBytes g.chunks).length) rest 0 0 ((g.recs.length : Nat) : Int)
        (bufsOf cols g.recs) true) ∧
    ∃ post, file.drop (4 + (gBytes g.chunks).length) = dataOf rest ++ post := by
  obtain ⟨post, hl⟩ := hfr.drop
  refine ⟨?_, post, ?_⟩
  · rw [openReader_at dc cols file hres (g :: rest) (List.forall_mem_cons.mpr ⟨hg.toListed, hrest⟩) f hfr hrg]
    exact readRowGroup_at dc cols f.numRows file hres g rest hg hrest 4 post hl 0 0 0 _ false
  · rw [dataOf_cons, List.append_assoc] at hl
    exact drop_add_of_drop_eq hl

/-- **The whole read, any chunk layout**: a framed file whose footer lists the row groups `gs`, all of them in
order, is read back as exactly their records. -/
theorem readAll_gen (hres : ColsResolve cols) (gs : List GRG) (hok : ∀ g ∈ gs, g.OK dc cols)
    (f : FMD) (hfr : Framed (dataOf gs) f file) (hrg : f.rowGroups = gs.map (·.rgm))
    (hN : f.numRows = ((recsIn gs : Nat) : Int)) :
    readAllEntries cols dc file = some (((recsIn gs : Nat) : Int), (gs.flatMap (·.recs)).map (rowOf cols.length)) := by
  unfold readAllEntries
  cases gs with
  | nil =>
    rw [openReader_at dc cols file hres [] (by simp) f hfr hrg, hN]
    simp only [readerAt, List.map_nil, RState.readRowGroup]
    rw [show (((recsIn [] : Nat) : Int) + 3).toNat = 2 + 1 by rfl, PQ.readLoop_done 2 _ [] rfl (by simp [recsIn])]
    simp [recsIn]
  | cons g rest =>
    have hrest : ∀ x ∈ rest, x.OK dc cols := fun x hx => hok x (List.mem_cons_of_mem _ hx)
    obtain ⟨hopen, post, hl⟩ := openReader_cons dc cols file hres g rest (hok g List.mem_cons_self)
      (fun x hx => (hrest x hx).toListed) f hfr hrg
    rw [hopen]
    show (readLoop ((f.numRows + 3).toNat) (readerAt dc cols f.numRows file _ rest 0 0 _ _ true) []).map
      (fun rows => (f.numRows, rows)) = _
    rw [hN]
    obtain ⟨st', hb, hd⟩ := delivers_loaded dc cols ((recsIn (g :: rest) : Nat) : Int) file hres [] (by simp) rest hrest
      g.recs (hok g List.mem_cons_self).hrecs (4 + (gBytes g.chunks).length) post 0 0 ((g.recs.length : Nat) : Int)
      (by simpa using hl) (by simp) (by rw [recsIn_cons]; simp)
    have hfuel : (((recsIn (g :: rest) : Nat) : Int) + 3).toNat =
        2 + 1 + ((g.recs ++ rest.flatMap (·.recs)).map (rowOf cols.length)).length := by
      rw [recsIn_cons, List.length_map, List.length_append, length_flatMap_recs]
      omega
    simp only [List.append_nil] at hd
    rw [hfuel, hd.readLoop, hb.readLoop_done dc cols _ file (by rw [recsIn_cons]; simp) 2]
    simp [recsIn_cons]

/-- **The whole read, any chunk layout, one refused row group** (number `j`, holding records): the row groups
before it are read back; those after it only have to be listed by the footer. -/
theorem readOutcome_gen_mut (hres : ColsResolve cols) (gs : List GRG) (j : Nat) (gbad : GRG) (hj : gs[j]? = some gbad)
    (hB : ∀ i g, gs[i]? = some g → i < j → g.OK dc cols) (hbad : gbad.Bad dc cols) (hne : gbad.recs ≠ [])
    (hA : ∀ i g, gs[i]? = some g → j < i → g.Listed cols) (f : FMD) (hfr : Framed (dataOf gs) f file)
    (hrg : f.rowGroups = gs.map (·.rgm)) (hN : f.numRows = ((recsIn gs : Nat) : Int)) :
    readOutcome cols dc file =
      if j = 0 then .refusedAtOpen else .refused (((gs.take j).flatMap (·.recs)).map (rowOf cols.length)) := by
  obtain ⟨hjl, hje⟩ := List.getElem?_eq_some_iff.mp hj
  have hsplit : gs = gs.take j ++ gbad :: gs.drop (j + 1) := by
    rw [← hje, ← List.drop_eq_getElem_cons hjl, List.take_append_drop]
  have hB : ∀ g ∈ gs.take j, g.OK dc cols := fun g hg => by
    obtain ⟨i, hi, rfl⟩ := List.mem_take_iff_getElem.mp hg
    exact hB i _ (List.getElem?_eq_getElem _) (by omega)
  have hA : ∀ g ∈ gs.drop (j + 1), g.Listed cols := fun g hg => by
    obtain ⟨i, hi, rfl⟩ := List.mem_drop_iff_getElem.mp hg
    exact hA (j + 1 + i) _ (List.getElem?_eq_getElem _) (by omega)
  have hj0 : gs.take j = [] ↔ j = 0 := by
    rw [List.take_eq_nil_iff, or_iff_left (List.ne_nil_of_length_pos (Nat.zero_lt_of_lt hjl))]
  rw [hsplit] at hfr hrg hN
  generalize gs.take j = gsB at *
  generalize gs.drop (j + 1) = gsA at *
  have hT : ∀ g ∈ gbad :: gsA, g.Listed cols := List.forall_mem_cons.mpr ⟨hbad.toListed, hA⟩
  have hpos : 1 ≤ gbad.recs.length := List.length_pos_iff.mpr hne
  unfold readOutcome
  cases gsB with
  | nil =>
    obtain ⟨post, hl⟩ := hfr.drop
    rw [if_pos (hj0.mp rfl), openReader_at dc cols file hres _ hT f hfr hrg,
      readRowGroup_bad_at dc cols _ file hres gbad gsA hbad hA 4 post hl]
  | cons b bs =>
    have hbs : ∀ x ∈ bs, x.OK dc cols := fun x hx => hB x (List.mem_cons_of_mem _ hx)
    have hall : ∀ x ∈ bs ++ gbad :: gsA, x.Listed cols :=
      List.forall_mem_append.mpr ⟨fun x hx => (hbs x hx).toListed, hT⟩
    obtain ⟨hopen, post, hl⟩ := openReader_cons dc cols file hres b (bs ++ gbad :: gsA) (hB b List.mem_cons_self) hall f hfr hrg
    rw [hopen]
    show outLoop ((f.numRows + 3).toNat) (readerAt dc cols f.numRows file _ (bs ++ gbad :: gsA) 0 0 _ _ true) [] = _
    have hsum : recsIn (b :: bs ++ gbad :: gsA) = b.recs.length + recsIn bs + (gbad.recs.length + recsIn gsA) := by
      rw [recsIn_append, recsIn_cons, recsIn_cons]
    rw [hN, hsum]
    obtain ⟨st', hb, hd⟩ := delivers_loaded dc cols ((b.recs.length + recsIn bs + (gbad.recs.length + recsIn gsA) : Nat) : Int)
      file hres (gbad :: gsA) hT bs hbs b.recs (hB b List.mem_cons_self).hrecs (4 + (gBytes b.chunks).length) post 0 0
      ((b.recs.length : Nat) : Int) hl (by simp) (by omega)
    have hfuel : (((b.recs.length + recsIn bs + (gbad.recs.length + recsIn gsA) : Nat) : Int) + 3).toNat =
        (gbad.recs.length + recsIn gsA + 2) + 1 + ((b.recs ++ bs.flatMap (·.recs)).map (rowOf cols.length)).length := by
      rw [List.length_map, List.length_append, length_flatMap_recs]
      omega
    rw [hfuel, hd.outLoop, outLoop_refuse _ _ _ _ (hb.next_bad dc cols _ file hres hbad hA (by omega)) rfl,
      if_neg fun h => List.cons_ne_nil _ _ (hj0.mpr h)]
    simp

end

end PQ
