import PQ.Model.Rle
import PQ.Lemmas.BitpackNat
/-!
The RLE encoder's invariant.  `EInv e a xs`: after writing `xs`, the encoder state `e` abstracts to closed runs `a.runs`, an open
bit-packed run with groups `a.gs`, and the pending values.  The serialisation used here
(`Run.serEnc`) is the encoder's own: Go's `leb128`, `valBytes`, the table `pack`, a one-byte
bit-packed header.  `serEnc_eq_ser` at the end identifies it with the specification's `Run.ser`.
-/
namespace PQ
open PQ.Gen

/-- one run as Go's encoder writes it: a `leb128` header (a single byte for a bit-packed run), `valBytes`, the table
`pack`; `Run.ser` (Model/Rle.lean) is the specification's -/
def Run.serEnc (w : Nat) : Run → Bytes
  | .rle c v => leb128 (c * 2) ++ valBytes w v
  | .packed gs => [gs.length * 2 + 1] ++ gs.flatMap (pack w)

def serRunsEnc (w : Nat) (rs : List Run) : Bytes := rs.flatMap (Run.serEnc w)

structure EAbs where
  runs : List Run
  gs : List (List Nat)

/-- structural part of the invariant: how `out` is laid out.

The literals `63` here and `8` below are `Facts.rleMaxGroups`, `Facts.rleGroupSize` and `Facts.rleRepeatThreshold` of
the regenerated `PQ/Gen/Facts.lean`, written out; if one of them changes, the `:= rfl` equations `flushGroup_eq`,
`push_eq`, `write_eq`, `bytes_eq` (and the one inside `writeRLERun_rle`) are where this file stops compiling. -/
structure EShape (e : Enc) (a : EAbs) : Prop where
  closed : e.headerPointer = none → e.out = serRunsEnc e.w a.runs ∧ a.gs = [] ∧ e.groupCount = 0
  opened : ∀ p, e.headerPointer = some p →
      e.out = serRunsEnc e.w a.runs ++ 0 :: a.gs.flatMap (pack e.w) ∧ p = (serRunsEnc e.w a.runs).length
      ∧ a.gs.length = e.groupCount ∧ 1 ≤ e.groupCount ∧ e.groupCount ≤ 63

theorem serRunsEnc_append (w : Nat) (a b : List Run) : serRunsEnc w (a ++ b) = serRunsEnc w a ++ serRunsEnc w b := by
  simp [serRunsEnc]

theorem runsVals_append (a b : List Run) : runsVals (a ++ b) = runsVals a ++ runsVals b := by
  simp [runsVals]

/-- the values written so far, pending ones apart -/
def EAbs.vals (a : EAbs) : List Nat := runsVals a.runs ++ a.gs.flatten

def EAbs.close (a : EAbs) (e : Enc) : EAbs :=
  match e.headerPointer with
  | none => a
  | some _ => { runs := a.runs ++ [.packed a.gs], gs := [] }

def EAbs.snoc (a : EAbs) (g : List Nat) : EAbs := { runs := a.runs, gs := a.gs ++ [g] }

/-- `flushGroup`: a run that is full (63 groups) is closed first -/
def EAbs.flush (a : EAbs) (e : Enc) (g : List Nat) : EAbs := (if e.groupCount ≥ 63 then a.close e else a).snoc g

/-- `writeRLERun`: the open run is closed and an RLE run follows -/
def EAbs.rle (a : EAbs) (e : Enc) : EAbs := { runs := (a.close e).runs ++ [.rle e.repeatCount e.prev], gs := [] }

theorem close_none (a : EAbs) (e : Enc) (h : e.headerPointer = none) : a.close e = a := by
  simp [EAbs.close, h]

theorem close_some (a : EAbs) (e : Enc) (p : Nat) (h : e.headerPointer = some p) :
    a.close e = { runs := a.runs ++ [.packed a.gs], gs := [] } := by
  simp [EAbs.close, h]

theorem close_vals (a : EAbs) (e : Enc) : (a.close e).vals = a.vals := by
  unfold EAbs.close
  split
  · rfl
  · simp [EAbs.vals, runsVals, Run.vals]

theorem flush_vals (a : EAbs) (e : Enc) (g : List Nat) : (a.flush e g).vals = a.vals ++ g := by
  have : ∀ b : EAbs, (b.snoc g).vals = b.vals ++ g := fun b => by simp [EAbs.vals, EAbs.snoc]
  rw [EAbs.flush, this]
  split
  · rw [close_vals]
  · rfl

/-- the shape of the runs this encoder emits, their values aside: what the invariant maintains for every `w` and every
input.  Together with `Run.Bounded w` it gives the model's `Run.WF w` (what a decoder asks of a run) and
`Run.WFenc w` (what this encoder guarantees beyond that). -/
def Run.WFs : Run → Prop
  | .rle c _ => 8 ≤ c
  | .packed gs => 1 ≤ gs.length ∧ gs.length ≤ 63 ∧ ∀ g ∈ gs, g.length = 8

/-- values below `2^w` and RLE headers below `2^32`: the bounds under which the encoder's serialisation is the
specification's (`serEnc_eq_ser`) -/
def Run.Bounded (w : Nat) : Run → Prop
  | .rle c v => c * 2 < 2 ^ 32 ∧ v < 2 ^ w
  | .packed gs => ∀ g ∈ gs, ∀ x ∈ g, x < 2 ^ w

theorem wfenc_of (w : Nat) (r : Run) (hs : r.WFs) (hb : r.Bounded w) : r.WFenc w := by
  cases r with
  | rle c v => exact ⟨hs, hb.2⟩
  | packed gs => exact hs

theorem wf_of (w : Nat) (r : Run) (hs : r.WFs) (hb : r.Bounded w) : r.WF w := by
  cases r with
  | rle c v =>
    have hc : 8 ≤ c := hs
    exact ⟨by omega, hb.2⟩
  | packed gs => exact ⟨hs.1, fun g hg => ⟨hs.2.2 g hg, hb g hg⟩⟩

structure EAWF (a : EAbs) : Prop where
  runs : ∀ r ∈ a.runs, r.WFs
  gs : ∀ g ∈ a.gs, g.length = 8

theorem EAWF.snoc {a : EAbs} (hw : EAWF a) {g : List Nat} (hg : g.length = 8) : EAWF (a.snoc g) :=
  ⟨hw.runs, List.forall_mem_append.mpr ⟨hw.gs, List.forall_mem_cons.mpr ⟨hg, nofun⟩⟩⟩

theorem EAWF.run {a : EAbs} (hw : EAWF a) {r : Run} (hr : r.WFs) : EAWF { runs := a.runs ++ [r], gs := [] } :=
  ⟨List.forall_mem_append.mpr ⟨hw.runs, List.forall_mem_cons.mpr ⟨hr, nofun⟩⟩, nofun⟩

theorem endPrev_none (e : Enc) (h : e.headerPointer = none) : e.endPrev = e := by
  simp [Enc.endPrev, h]

theorem endPrev_some (e : Enc) (p : Nat) (h : e.headerPointer = some p) :
    e.endPrev = { e with out := e.out.set p ((e.groupCount * 2 + 1) % 256), headerPointer := none, groupCount := 0 } := by
  simp [Enc.endPrev, h]

theorem endPrev_fields (e : Enc) : e.endPrev.headerPointer = none ∧ e.endPrev.w = e.w
    ∧ e.endPrev.prev = e.prev ∧ e.endPrev.pending = e.pending ∧ e.endPrev.repeatCount = e.repeatCount
    ∧ e.endPrev.groupCount = 0 ∨ e.headerPointer = none := by
  cases hp : e.headerPointer with
  | none => exact Or.inr rfl
  | some p => rw [endPrev_some e p hp]; exact Or.inl ⟨rfl, rfl, rfl, rfl, rfl, rfl⟩

theorem endPrev_same (e : Enc) : e.endPrev.headerPointer = none ∧ e.endPrev.w = e.w ∧ e.endPrev.prev = e.prev
    ∧ e.endPrev.pending = e.pending ∧ e.endPrev.repeatCount = e.repeatCount := by
  unfold Enc.endPrev
  split
  · exact ⟨‹_›, rfl, rfl, rfl, rfl⟩
  · exact ⟨rfl, rfl, rfl, rfl, rfl⟩

theorem endPrev_shape {e : Enc} {a : EAbs} (h : EShape e a) : EShape e.endPrev (a.close e) := by
  cases hp : e.headerPointer with
  | none => rw [endPrev_none e hp, close_none a e hp]; exact h
  | some p =>
    obtain ⟨ho, hpp, hl, h1, h63⟩ := h.opened p hp
    rw [endPrev_some e p hp, close_some a e p hp]
    refine ⟨fun _ => ⟨?_, rfl, rfl⟩, nofun⟩
    show e.out.set p _ = _
    rw [ho, hpp, set_append_length, serRunsEnc_append, show (e.groupCount * 2 + 1) % 256 = a.gs.length * 2 + 1 by omega]
    simp [serRunsEnc, Run.serEnc]

theorem endPrev_closed {e : Enc} {a : EAbs} (h : EShape e a) :
    e.endPrev.out = serRunsEnc e.w (a.close e).runs ∧ (a.close e).gs = [] ∧ e.endPrev.groupCount = 0 :=
  (endPrev_same e).2.1 ▸ (endPrev_shape h).closed (endPrev_same e).1

theorem close_awf {e : Enc} {a : EAbs} (h : EShape e a) (hw : EAWF a) : EAWF (a.close e) := by
  cases hp : e.headerPointer with
  | none => rw [close_none a e hp]; exact hw
  | some p =>
    obtain ⟨_, _, hl, h1, h63⟩ := h.opened p hp
    rw [close_some a e p hp]
    exact hw.run ⟨by omega, by omega, hw.gs⟩

/-- second half of flushGroup: open a run if needed and append the packed group -/
def Enc.appendGroup (e : Enc) (g : List Nat) : Enc :=
  let e := match e.headerPointer with
    | none => { e with out := e.out ++ [0], headerPointer := some e.out.length }
    | some _ => e
  { e with out := e.out ++ pack e.w g, pending := [], repeatCount := 0, groupCount := e.groupCount + 1 }

theorem flushGroup_eq (e : Enc) (g : List Nat) :
    e.flushGroup g = (if e.groupCount ≥ 63 then e.endPrev else e).appendGroup g := rfl

theorem appendGroup_same (e : Enc) (g : List Nat) : (e.appendGroup g).w = e.w ∧ (e.appendGroup g).prev = e.prev
    ∧ (e.appendGroup g).pending = [] ∧ (e.appendGroup g).repeatCount = 0 := by
  unfold Enc.appendGroup
  split <;> exact ⟨rfl, rfl, rfl, rfl⟩

theorem appendGroup_shape {e : Enc} {a : EAbs} (h : EShape e a) (hlt : e.groupCount < 63) (g : List Nat) :
    EShape (e.appendGroup g) (a.snoc g) := by
  cases hp : e.headerPointer with
  | none =>
    obtain ⟨ho, hg, hc⟩ := h.closed hp
    have : e.appendGroup g =
        { e with out := e.out ++ [0] ++ pack e.w g, headerPointer := some e.out.length, pending := [], repeatCount := 0,
                 groupCount := e.groupCount + 1 } := by simp [Enc.appendGroup, hp]
    rw [this]
    refine ⟨nofun, fun p hp' => ?_⟩
    cases hp'
    exact ⟨by simp [EAbs.snoc, ho, hg], congrArg _ ho, by simp [EAbs.snoc, hg, hc], Nat.le_add_left _ _,
      Nat.succ_le_of_lt hlt⟩
  | some p =>
    obtain ⟨ho, hpp, hl, h1, h63⟩ := h.opened p hp
    have : e.appendGroup g =
        { e with out := e.out ++ pack e.w g, pending := [], repeatCount := 0, groupCount := e.groupCount + 1 } := by
      simp [Enc.appendGroup, hp]
    rw [this]
    refine ⟨fun hn => absurd (hp.symm.trans hn) nofun, fun p' hp' => ?_⟩
    cases hp.symm.trans hp'
    exact ⟨by simp [EAbs.snoc, ho], hpp, by simp [EAbs.snoc, hl], Nat.le_add_left _ _, Nat.succ_le_of_lt hlt⟩

theorem flushGroup_flush {e : Enc} {a : EAbs} (h : EShape e a) (g : List Nat) :
    EShape (e.flushGroup g) (a.flush e g) ∧ (e.flushGroup g).w = e.w ∧ (e.flushGroup g).prev = e.prev
      ∧ (e.flushGroup g).pending = [] ∧ (e.flushGroup g).repeatCount = 0 := by
  rw [flushGroup_eq, EAbs.flush]
  split
  · obtain ⟨-, hw, hpv, -, -⟩ := endPrev_same e
    obtain ⟨h1, h2, h3, h4⟩ := appendGroup_same e.endPrev g
    exact ⟨appendGroup_shape (endPrev_shape h) (by rw [(endPrev_closed h).2.2]; decide) g, h1.trans hw, h2.trans hpv,
      h3, h4⟩
  · exact ⟨appendGroup_shape h (by omega) g, appendGroup_same e g⟩

theorem flush_awf {e : Enc} {a : EAbs} (h : EShape e a) (hw : EAWF a) {g : List Nat} (hg : g.length = 8) :
    EAWF (a.flush e g) := by
  unfold EAbs.flush
  split
  · exact (close_awf h hw).snoc hg
  · exact hw.snoc hg

theorem flushGroup_shape (e : Enc) (a : EAbs) (h : EShape e a) (g : List Nat) :
    ∃ a', EShape (e.flushGroup g) a'
      ∧ runsVals a'.runs ++ a'.gs.flatten = runsVals a.runs ++ a.gs.flatten ++ g
      ∧ (e.flushGroup g).w = e.w ∧ (e.flushGroup g).prev = e.prev
      ∧ (e.flushGroup g).pending = [] ∧ (e.flushGroup g).repeatCount = 0 :=
  ⟨_, (flushGroup_flush h g).1, flush_vals a e g, (flushGroup_flush h g).2⟩

theorem writeRLERun_rle {e : Enc} {a : EAbs} (h : EShape e a) :
    EShape e.writeRLERun (a.rle e) ∧ e.writeRLERun.headerPointer = none ∧ e.writeRLERun.w = e.w
    ∧ e.writeRLERun.prev = e.prev ∧ e.writeRLERun.pending = [] ∧ e.writeRLERun.repeatCount = 0
    ∧ (a.rle e).vals = a.vals ++ List.replicate e.repeatCount e.prev := by
  obtain ⟨hn, hw, hpv, -, hrc⟩ := endPrev_same e
  obtain ⟨ho, hg, hgc⟩ := endPrev_closed h
  have : e.writeRLERun =
      { e.endPrev with out := e.endPrev.out ++ leb128 (e.endPrev.repeatCount * 2) ++ valBytes e.endPrev.w e.endPrev.prev,
                       repeatCount := 0, pending := [] } := rfl
  rw [this]
  refine ⟨⟨fun _ => ⟨?_, rfl, hgc⟩, fun p hp => absurd (hn.symm.trans hp) nofun⟩, hn, hw, hpv, rfl, rfl, ?_⟩
  · show e.endPrev.out ++ leb128 (e.endPrev.repeatCount * 2) ++ valBytes e.endPrev.w e.endPrev.prev = _
    rw [ho, EAbs.rle, serRunsEnc_append, hrc, hpv, hw]
    simp [serRunsEnc, Run.serEnc]
  · have := close_vals a e
    rw [EAbs.vals, hg, List.flatten_nil, List.append_nil] at this
    rw [EAbs.rle, EAbs.vals, runsVals_append, this]
    simp [runsVals, Run.vals]

theorem rle_awf {e : Enc} {a : EAbs} (h : EShape e a) (hw : EAWF a) (h8 : 8 ≤ e.repeatCount) : EAWF (a.rle e) :=
  (close_awf h hw).run h8

theorem shape_congr (e e' : Enc) (a : EAbs) (h : EShape e a) (h1 : e'.out = e.out) (h2 : e'.w = e.w)
    (h3 : e'.headerPointer = e.headerPointer) (h4 : e'.groupCount = e.groupCount) : EShape e' a := by
  constructor
  · intro hn; rw [h1, h2, h4]; exact h.closed (h3 ▸ hn)
  · intro p hp; rw [h1, h2, h4]; exact h.opened p (h3 ▸ hp)

structure EInv (e : Enc) (a : EAbs) (xs : List Nat) : Prop where
  shape : EShape e a
  awf : EAWF a
  /-- below the threshold the repetitions counted so far are still pending -/
  lt8 : e.repeatCount < 8 → xs = a.vals ++ e.pending ∧ e.pending.length < 8
        ∧ ∃ p, e.pending = p ++ List.replicate e.repeatCount e.prev
  ge8 : 8 ≤ e.repeatCount → xs = a.vals ++ List.replicate e.repeatCount e.prev
        ∧ e.pending = List.replicate 7 e.prev

theorem push_eq (e : Enc) (v : Nat) : e.push v =
    if (e.pending ++ [v]).length = 8 then ({ e with pending := e.pending ++ [v] }).flushGroup (e.pending ++ [v])
    else { e with pending := e.pending ++ [v] } := rfl

theorem push_inv (e : Enc) (a : EAbs) (ys : List Nat) (v : Nat) (hs : EShape e a) (hw : EAWF a)
    (hxs : ys = a.vals ++ e.pending) (hlen : e.pending.length < 8) (hrc8 : e.repeatCount < 8)
    (hp : ∃ p, e.pending ++ [v] = p ++ List.replicate e.repeatCount e.prev) :
    ∃ a', EInv (e.push v) a' (ys ++ [v]) ∧ (e.push v).w = e.w := by
  rw [push_eq]
  have hs' : EShape { e with pending := e.pending ++ [v] } a := shape_congr e _ a hs rfl rfl rfl rfl
  by_cases h8 : (e.pending ++ [v]).length = 8
  · rw [if_pos h8]
    obtain ⟨hsh, hw', hp', hpe, hr0⟩ := flushGroup_flush hs' (e.pending ++ [v])
    refine ⟨_, ⟨hsh, flush_awf hs' hw h8, fun _ => ?_, fun h => ?_⟩, hw'⟩
    · rw [hpe, hr0, flush_vals, hxs, List.append_nil, List.append_assoc]
      exact ⟨rfl, Nat.zero_lt_succ 7, [], rfl⟩
    · rw [hr0] at h; exact absurd h (by decide)
  · rw [if_neg h8]
    rw [List.length_append, List.length_singleton] at h8
    refine ⟨a, ⟨hs', hw, fun _ => ⟨?_, ?_, hp⟩, fun h => absurd hrc8 (Nat.not_lt.mpr h)⟩, rfl⟩
    · show ys ++ [v] = _ ++ (e.pending ++ [v]); rw [hxs, List.append_assoc]
    · show (e.pending ++ [v]).length < 8
      rw [List.length_append, List.length_singleton]; omega

theorem write_eq (e : Enc) (v : Nat) : e.write v =
    if v = e.prev then
      if e.repeatCount + 1 ≥ 8 then { e with repeatCount := e.repeatCount + 1 }
      else ({ e with repeatCount := e.repeatCount + 1 }).push v
    else
      ({ (if e.repeatCount ≥ 8 then e.writeRLERun else e) with repeatCount := 1, prev := v }).push v := by
  rfl

theorem write_inv (e : Enc) (a : EAbs) (xs : List Nat) (v : Nat) (h : EInv e a xs) :
    ∃ a', EInv (e.write v) a' (xs ++ [v]) ∧ (e.write v).w = e.w := by
  rw [write_eq]
  by_cases hv : v = e.prev
  · rw [if_pos hv]
    by_cases h8 : e.repeatCount + 1 ≥ 8
    · -- the eighth repetition and every later one is only counted
      rw [if_pos h8]
      refine ⟨a, ⟨shape_congr e _ a h.shape rfl rfl rfl rfl, h.awf, fun hlt => absurd h8 (Nat.not_le.mpr hlt), fun _ => ?_⟩,
        rfl⟩
      show xs ++ [v] = a.vals ++ List.replicate (e.repeatCount + 1) e.prev ∧ e.pending = List.replicate 7 e.prev
      by_cases h7 : e.repeatCount < 8
      · -- seven are pending and fill `pending`
        obtain ⟨hx, hl, p, hp⟩ := h.lt8 h7
        have hrc : e.repeatCount = 7 := by omega
        rw [hp, List.length_append, List.length_replicate] at hl
        obtain rfl : p = [] := List.eq_nil_of_length_eq_zero (by omega)
        rw [List.nil_append] at hp
        exact ⟨by rw [hx, hp, hv, List.append_assoc, ← List.replicate_succ'], hrc ▸ hp⟩
      · obtain ⟨hx, hp⟩ := h.ge8 (Nat.le_of_not_lt h7)
        exact ⟨by rw [hx, hv, List.append_assoc, ← List.replicate_succ'], hp⟩
    · rw [if_neg h8]
      obtain ⟨hx, hl, p, hp⟩ := h.lt8 (by omega)
      exact push_inv { e with repeatCount := e.repeatCount + 1 } a xs v
        (shape_congr e _ a h.shape rfl rfl rfl rfl) h.awf hx hl (Nat.lt_of_not_le h8)
        ⟨p, by rw [hp, hv, List.append_assoc, ← List.replicate_succ']⟩
  · rw [if_neg hv]
    by_cases h8 : e.repeatCount ≥ 8
    · -- a run of at least 8 ends: it is written as an RLE run
      rw [if_pos h8]
      obtain ⟨hx, hp⟩ := h.ge8 h8
      obtain ⟨hs, -, hw, hpv, hpe, hrc, hvals⟩ := writeRLERun_rle h.shape
      obtain ⟨a', hinv, hw'⟩ := push_inv { e.writeRLERun with repeatCount := 1, prev := v } _ xs v
        (shape_congr e.writeRLERun _ _ hs rfl rfl rfl rfl) (rle_awf h.shape h.awf h8)
        (by show xs = _ ++ e.writeRLERun.pending; rw [hpe, hvals, hx, List.append_nil])
        (by show e.writeRLERun.pending.length < 8; rw [hpe]; decide) (show 1 < 8 by decide) ⟨_, rfl⟩
      exact ⟨a', hinv, hw'.trans hw⟩
    · rw [if_neg h8]
      obtain ⟨hx, hl, -⟩ := h.lt8 (Nat.lt_of_not_le h8)
      exact push_inv { e with repeatCount := 1, prev := v } a xs v
        (shape_congr e _ a h.shape rfl rfl rfl rfl) h.awf hx hl (show 1 < 8 by decide) ⟨_, rfl⟩

theorem init_inv (w : Nat) : EInv { w := w } { runs := [], gs := [] } [] :=
  ⟨⟨fun _ => ⟨rfl, rfl, rfl⟩, nofun⟩, ⟨nofun, nofun⟩, fun _ => ⟨rfl, Nat.zero_lt_succ 7, [], rfl⟩,
    fun h => absurd h (Nat.not_succ_le_zero 7)⟩

theorem foldl_inv (w : Nat) (xs : List Nat) :
    ∃ a, EInv (xs.foldl Enc.write { w := w }) a xs ∧ (xs.foldl Enc.write { w := w }).w = w := by
  suffices ∀ (ys : List Nat) (e : Enc) (a : EAbs) (pre : List Nat), EInv e a pre → e.w = w →
      ∃ a', EInv (ys.foldl Enc.write e) a' (pre ++ ys) ∧ (ys.foldl Enc.write e).w = w by
    simpa using this xs { w := w } _ [] (init_inv w) rfl
  intro ys
  induction ys with
  | nil => intro e a pre h hw; exact ⟨a, by simpa using h, hw⟩
  | cons y ys ih =>
    intro e a pre h hw
    obtain ⟨a', h', hw'⟩ := write_inv e a pre y h
    obtain ⟨a'', h'', hw''⟩ := ih (e.write y) a' (pre ++ [y]) h' (by rw [hw', hw])
    exact ⟨a'', by simpa using h'', hw''⟩

/-- the encoder state after finalisation (what `Bytes()` does before adding the length prefix) -/
def Enc.finish (e : Enc) : Enc :=
  if e.repeatCount ≥ 8 then e.writeRLERun
  else if e.pending.length > 0 then
    (e.flushGroup (e.pending ++ List.replicate (8 - e.pending.length) 0)).endPrev
  else e.endPrev

theorem bytes_eq (e : Enc) : e.bytes = le32 e.finish.out.length ++ e.finish.out := rfl

theorem finish_spec (e : Enc) (a : EAbs) (xs : List Nat) (h : EInv e a xs) :
    ∃ runs pad, e.finish.out = serRunsEnc e.w runs ∧ (∀ r ∈ runs, r.WFs)
      ∧ runsVals runs = xs ++ List.replicate pad 0 ∧ pad < 8 := by
  -- in each of the three cases no run is open at the end: `b` is the final abstract state
  have closed : ∀ {e' : Enc} {b : EAbs}, EShape e' b → e'.headerPointer = none → EAWF b → e'.w = e.w →
      ∀ pad, pad < 8 → b.vals = xs ++ List.replicate pad 0 →
      ∃ runs pad, e'.out = serRunsEnc e.w runs ∧ (∀ r ∈ runs, r.WFs)
        ∧ runsVals runs = xs ++ List.replicate pad 0 ∧ pad < 8 := by
    intro e' b hs hn hb hw pad hp hv
    obtain ⟨ho, hg, -⟩ := hs.closed hn
    rw [EAbs.vals, hg, List.flatten_nil, List.append_nil] at hv
    exact ⟨b.runs, pad, hw ▸ ho, hb.runs, hv, hp⟩
  unfold Enc.finish
  by_cases h8 : e.repeatCount ≥ 8
  · rw [if_pos h8]
    obtain ⟨hs, hn, hw, -, -, -, hvals⟩ := writeRLERun_rle h.shape
    exact closed hs hn (rle_awf h.shape h.awf h8) hw 0 (by decide) (by rw [hvals, (h.ge8 h8).1]; exact (List.append_nil _).symm)
  · rw [if_neg h8]
    obtain ⟨hx, hl, -⟩ := h.lt8 (by omega)
    by_cases hp : e.pending.length > 0
    · rw [if_pos hp]
      have hg : (e.pending ++ List.replicate (8 - e.pending.length) 0).length = 8 := by
        rw [List.length_append, List.length_replicate]; omega
      obtain ⟨hsh, hw', -⟩ := flushGroup_flush h.shape (e.pending ++ List.replicate (8 - e.pending.length) 0)
      obtain ⟨hn, hw2, -⟩ := endPrev_same (e.flushGroup (e.pending ++ List.replicate (8 - e.pending.length) 0))
      exact closed (endPrev_shape hsh) hn (close_awf hsh (flush_awf h.shape h.awf hg)) (hw2.trans hw')
        (8 - e.pending.length) (by omega) (by rw [close_vals, flush_vals, hx, List.append_assoc])
    · rw [if_neg hp]
      obtain ⟨hn, hw2, -⟩ := endPrev_same e
      exact closed (endPrev_shape h.shape) hn (close_awf h.shape h.awf) hw2 0 (by decide)
        (by rw [close_vals, hx, List.eq_nil_of_length_eq_zero (Nat.eq_zero_of_not_pos hp), List.append_nil]
            exact (List.append_nil _).symm)

/-- C07 (encoder half), for every width and every level sequence -/
theorem encode_struct (w : Nat) (xs : List Nat) :
    ∃ runs pad, encode w xs = le32 (serRunsEnc w runs).length ++ serRunsEnc w runs
      ∧ (∀ r ∈ runs, r.WFs) ∧ runsVals runs = xs ++ List.replicate pad 0 ∧ pad < 8 := by
  obtain ⟨a, hinv, hw⟩ := foldl_inv w xs
  obtain ⟨runs, pad, ho, hwf, hv, hp⟩ := finish_spec _ a xs hinv
  refine ⟨runs, pad, ?_, hwf, hv, hp⟩
  unfold encode
  rw [bytes_eq, ho, hw]

/-- wherever the encoder back-patches a header (`endPrev`: `out.set p _`), `p` is inside `out`, so
`List.set` is Go's `writeAt([]byte{h}, p)` (see `C07.backpatch_is_set`) -/
theorem shape_header_lt (e : Enc) (a : EAbs) (h : EShape e a) (p : Nat) (hp : e.headerPointer = some p) :
    p < e.out.length := by
  obtain ⟨ho, hpp, _⟩ := h.opened p hp
  rw [ho, hpp, List.length_append, List.length_cons]
  omega

/-- Go's `leb128` (32-bit loop test) is ULEB128 below 2^32 -/
theorem leb128_eq_uleb (n : Nat) (hn : n < 2 ^ 32) : leb128 n = uleb n := by
  induction n using uleb.induct with
  | case1 n h ih =>
    rw [leb128, uleb, Nat.mod_eq_of_lt hn, dif_pos h, dif_pos h, ih (Nat.lt_of_le_of_lt (Nat.div_le_self _ _) hn)]
  | case2 n h => rw [leb128, uleb, Nat.mod_eq_of_lt hn, dif_neg h, dif_neg h]

theorem valBytes_one (w v : Nat) (h1 : 1 ≤ w) (h8 : w ≤ 8) : valBytes w v = leBytes ((w + 7) / 8) v := by
  rw [valBytes, show (w + 7) / 8 = 1 by omega]
  rfl

theorem uleb_small (n : Nat) (h : n < 128) : uleb n = [n] := by
  rw [uleb, dif_neg (by omega), Nat.mod_eq_of_lt h]

theorem serEnc_eq_ser (w : Nat) (hw : 1 ≤ w ∧ w ≤ 4) (r : Run) (hs : r.WFs) (hb : r.Bounded w) :
    r.serEnc w = r.ser w := by
  cases r with
  | rle c v => rw [Run.serEnc, Run.ser, leb128_eq_uleb _ hb.1, valBytes_one w v hw.1 (by omega)]
  | packed gs =>
    obtain ⟨_, h63, h8⟩ := hs
    rw [Run.serEnc, Run.ser, uleb_small _ (by omega), flatMap_congr fun g hg => pack_eq_packSpec' w hw g (h8 g hg)]

theorem serRunsEnc_eq_serRuns (w : Nat) (hw : 1 ≤ w ∧ w ≤ 4) (runs : List Run)
    (hs : ∀ r ∈ runs, r.WFs) (hb : ∀ r ∈ runs, r.Bounded w) : serRunsEnc w runs = serRuns w runs :=
  flatMap_congr fun r hr => serEnc_eq_ser w hw r (hs r hr) (hb r hr)

theorem vals_length_le (runs : List Run) (r : Run) (hr : r ∈ runs) : r.vals.length ≤ (runsVals runs).length := by
  rw [runsVals, List.flatMap_def]
  exact (List.sublist_flatten_of_mem (List.mem_map_of_mem hr)).length_le

theorem bounded_of_vals (w : Nat) (runs : List Run) (hwf : ∀ r ∈ runs, r.WFs)
    (hv : ∀ x ∈ runsVals runs, x < 2 ^ w) (hlen : (runsVals runs).length * 2 < 2 ^ 32) :
    ∀ r ∈ runs, r.Bounded w := by
  intro r hr
  have hsub : ∀ x ∈ r.vals, x ∈ runsVals runs := fun x hx => List.mem_flatMap.mpr ⟨r, hr, hx⟩
  have hlenr := vals_length_le runs r hr
  cases r with
  | rle c v =>
    have hc : 8 ≤ c := hwf _ hr
    rw [Run.vals, List.length_replicate] at hlenr
    exact ⟨by omega, hv v (hsub v (List.mem_replicate.mpr ⟨by omega, rfl⟩))⟩
  | packed gs => exact fun g hg x hx => hv x (hsub x (List.mem_flatten.mpr ⟨g, hg, hx⟩))

/-- everything the later proofs need about `encode`, against the specification serialisation.  `hlen`: the runs hold
`xs` and fewer than 8 zeros of padding, the header of an RLE run is twice its count, and a run takes at most two bytes
per value; so with `xs.length + 8 ≤ 2^30` every header is below `2^32`, where Go's `leb128` still is ULEB128
(`leb128_eq_uleb`), and the stream is shorter than `2^31`, from where on the library's decoder takes the `int32` length
prefix for negative and panics (`encode_stream`, Lemmas/RleDec.lean). -/
theorem encode_runs (w : Nat) (hw : 1 ≤ w ∧ w ≤ 4) (xs : List Nat)
    (hx : ∀ x ∈ xs, x < 2 ^ w) (hlen : xs.length + 8 ≤ 2 ^ 30) :
    ∃ runs pad, encode w xs = le32 (serRuns w runs).length ++ serRuns w runs
      ∧ (∀ r ∈ runs, r.WFs) ∧ (∀ r ∈ runs, r.Bounded w)
      ∧ runsVals runs = xs ++ List.replicate pad 0 ∧ pad < 8 := by
  obtain ⟨runs, pad, henc, hwf, hvals, hpad⟩ := encode_struct w xs
  have hvlen : (runsVals runs).length = xs.length + pad := by rw [hvals]; simp
  have hvlt : ∀ x ∈ runsVals runs, x < 2 ^ w := by
    intro x hx'
    rw [hvals] at hx'
    simp only [List.mem_append, List.mem_replicate] at hx'
    rcases hx' with h | ⟨_, h⟩
    · exact hx x h
    · rw [h]; exact Nat.pow_pos (by omega)
  have h30 : (2 : Nat) ^ 32 = 4 * 2 ^ 30 := by decide
  have hb := bounded_of_vals w runs hwf hvlt (by omega)
  refine ⟨runs, pad, ?_, hwf, hb, hvals, hpad⟩
  rw [henc, serRunsEnc_eq_serRuns w hw runs hwf hb]

end PQ
