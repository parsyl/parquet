import PQ.Lemmas.ReadLoop
/-!
# The driver of `readAll` with errors told apart from panics

`Outcome`, `outLoop`, `readOutcome` refine `readLoop` / `readAllEntries` (`outLoop_of_readLoop`,
`readOutcome_of_entries`; the converse needs "`Next` was false within the fuel": with the fuel exhausted the
driver reports the error flag, `readLoop` says `none`).  The text driver `readAll` (Model/Text.lean; the line
compared with the Go program's output) is a function of the outcome: `readAll_of_entries`, `readAll_of_refused`.
-/
namespace PQ
open PQ.Thrift

inductive Outcome
  | refusedAtOpen                    -- `NewParquetReader` returned an error
  | refused (rows : List Row)        -- rows delivered, then `Next` = false with `Error() ≠ nil`
  | accepted (rows : List Row)       -- `Next` = false with `Error() = nil`
  | panicked
deriving BEq

/-- the `Next`/`Scan` loop of `readAll` (Model/Text.lean) on entries instead of texts, with the same case
distinction: fuel exhausted or `Next` false → the status is `Error()`; `Next` panics → panic; `Next` true
with the error flag set → the driver does not call `Scan` (no row is delivered for it; `next_true_err` shows
that this cannot happen from an error-free state); `Scan` on a reader that never loaded a row group, or
past its value buffer → panic. -/
def outLoop : Nat → RState → List Row → Outcome
  | 0, st, acc => if st.err then .refused acc else .accepted acc
  | fuel+1, st, acc =>
    match st.next with
    | .error _ => .panicked
    | .ok (false, st) => if st.err then .refused acc else .accepted acc
    | .ok (true, st) =>
      if st.err then outLoop fuel st acc else
      if !st.fieldsSet ∧ !st.cols.isEmpty then .panicked else
      match scanAllEntries st.cols st.bufs with
      | none => .panicked
      | some (row, bufs) => outLoop fuel { st with bufs := bufs } (acc ++ [row])

/-- open the file, then `Next`/`Scan` until `Next` is false, at most `Rows() + 3` times (the driver of
`readAll`) -/
def readOutcome (cols : List Col) (dc : Decomp) (file : Bytes) : Outcome :=
  match openReader cols dc file with
  | .error .err => .refusedAtOpen
  | .error .panic => .panicked
  | .ok st => outLoop (st.rows + 3).toNat st []

theorem outLoop_of_readLoop (fuel : Nat) (st : RState) (acc res : List Row) (h : readLoop fuel st acc = some res) :
    outLoop fuel st acc = .accepted res := by
  fun_induction readLoop fuel st acc <;> simp_all [outLoop]

/-- **`readOutcome` refines `readAllEntries`**: whenever the latter succeeds, the outcome is `accepted` with
the same rows. -/
theorem readOutcome_of_entries (cols : List Col) (dc : Decomp) (file : Bytes) (n : Int) (rows : List Row)
    (h : readAllEntries cols dc file = some (n, rows)) : readOutcome cols dc file = .accepted rows := by
  unfold readAllEntries at h
  unfold readOutcome
  cases ho : openReader cols dc file with
  | error e => rw [ho] at h; exact absurd h (by simp)
  | ok st =>
    rw [ho] at h
    simp only [Option.map_eq_some_iff, Prod.mk.injEq] at h
    obtain ⟨res, hl, _, hres⟩ := h
    subst hres
    exact outLoop_of_readLoop _ st [] res hl

theorem outLoop_step (fuel : Nat) (st st' : RState) (acc : List Row) (row : Row) (bufs : List ColBuf)
    (hn : st.next = .ok (true, st')) (he : st'.err = false) (hf : st'.fieldsSet = true)
    (hs : scanAllEntries st'.cols st'.bufs = some (row, bufs)) :
    outLoop (fuel + 1) st acc = outLoop fuel { st' with bufs := bufs } (acc ++ [row]) := by
  rw [outLoop]
  simp only [hn, he, hf, hs, Bool.false_eq_true, if_false, Bool.not_true, false_and]

theorem outLoop_refuse (fuel : Nat) (st st' : RState) (acc : List Row) (hn : st.next = .ok (false, st')) (he : st'.err = true) :
    outLoop (fuel + 1) st acc = .refused acc := by
  rw [outLoop]
  simp only [hn, he, if_true]

theorem Delivers.outLoop {st st' : RState} {rows : List Row} {t : Nat} (h : Delivers st rows t st') (fuel : Nat)
    (acc : List Row) : outLoop (fuel + rows.length) st acc = outLoop fuel st' (acc ++ rows) := by
  induction h generalizing acc with
  | nil => simp
  | cons hn he hf hs _ _ ih =>
    rw [List.length_cons, ← Nat.add_assoc, outLoop_step _ _ _ acc _ _ hn he hf hs, ih]
    simp

/-- the text of one delivered row -/
def rowText (cols : List Col) (row : List (List (Entry Bytes))) : String :=
  "|".intercalate (List.zipWith (fun c es => scanText c showProj es) cols row)

theorem scanAll_go_eq : ∀ (cols : List Col) (bufs : List ColBuf),
    scanAll.go cols bufs =
      (scanAllEntries cols bufs).map fun x => (List.zipWith (fun c es => scanText c showProj es) cols x.1, x.2)
  | [], _ => rfl
  | c :: cs, bufs => by
    rw [scanAll.go, scanAllEntries, scanCol_eq, scanAll_go_eq cs bufs.tail]
    cases scanEntries c (bufs.head?.getD {}) with
    | none => rfl
    | some p =>
      obtain ⟨es, b⟩ := p
      simp only [Option.map_some]
      cases scanAllEntries cs bufs.tail with
      | none => rfl
      | some q => rfl

theorem scanAll_eq (cols : List Col) (bufs : List ColBuf) :
    scanAll cols bufs = (scanAllEntries cols bufs).map fun x => (rowText cols x.1, x.2) := by
  unfold scanAll
  rw [scanAll_go_eq]
  cases scanAllEntries cols bufs with
  | none => rfl
  | some q => rfl

/-- the status is printed between two literals; the theorems below state the line with the three joined -/
theorem status_line (a s X : String) :
    a ++ toString " err=" ++ toString s ++ toString " recs=" ++ X = a ++ toString (" err=" ++ s ++ " recs=") ++ X := by
  show a ++ " err=" ++ s ++ " recs=" ++ X = a ++ (" err=" ++ s ++ " recs=") ++ X
  simp only [String.append_assoc]

theorem outLoop_ne_open (fuel : Nat) (st : RState) (acc : List Row) : outLoop fuel st acc ≠ .refusedAtOpen := by
  fun_induction outLoop fuel st acc <;> simp_all

/-- from an error-free state: whenever the entry-level loop ends with `Next` = false — `e`: whether with an
error — the text loop ends with that status, as many `Next`s and the texts of the same rows -/
theorem readAll_loop_of_outLoop (fuel : Nat) (st : RState) (acc res : List Row) (e : Bool) (k : Nat) (recs : List String)
    (he0 : st.err = false) (h : outLoop fuel st acc = (if e then .refused res else .accepted res)) :
    ∃ rows, res = acc ++ rows ∧
      readAll.loop fuel st k recs = (if e then "err" else "ok", k + rows.length, recs ++ rows.map (rowText st.cols)) := by
  -- of the cases `fun_induction` numbers, two recur: `case6`, `Next` true with the error flag set (impossible from an
  -- error-free state), and `case9`, a row is scanned and the loop goes on; in all others the loop ends
  fun_induction outLoop fuel st acc generalizing k recs with
  | case6 fuel st acc st' hn he => rw [next_true_err st st' hn, he0] at he; cases he
  | case9 fuel st acc st' hn he hf row bufs hs ih =>
    have he : st'.err = false := by simpa using he
    obtain ⟨rows, hr, hl⟩ := ih (k + 1) (recs ++ [rowText st'.cols row]) he h
    refine ⟨row :: rows, by rw [hr]; simp, ?_⟩
    rw [readAll.loop, hn]
    simp only [he, hf, scanAll_eq, hs, Option.map_some, Bool.false_eq_true, if_false] at hl ⊢
    rw [hl, ← (next_frame st st' true hn).1]
    simp [Nat.add_assoc, Nat.add_comm 1]
  | _ => rw [readAll.loop]; cases e <;> simp_all

/-- **The text driver on a refused file**: a `refusedAtOpen` outcome is the line `open=err …`; a
`refused rows` outcome is `open=ok`, one `Next` per delivered row, `err=err`, and the `Scan` texts of exactly
those rows — the classes `E` and `e` of `classifyRead`. -/
theorem readAll_of_refused (cols : List Col) (dc : Decomp) (file : Bytes) :
    (readOutcome cols dc file = .refusedAtOpen → readAll cols dc file = "open=err rows=0 nexts=0 err=- recs=-") ∧
    (∀ rows, readOutcome cols dc file = .refused rows → ∃ n : Int, readAll cols dc file =
      s!"open=ok rows={n} nexts={rows.length} err=err recs={if (rows.map (rowText cols)).isEmpty then "-" else ";".intercalate (rows.map (rowText cols))}") := by
  unfold readOutcome readAll
  cases ho : openReader cols dc file with
  | error e =>
    cases e with
    | err => exact ⟨fun _ => rfl, fun rows h => absurd h (by simp)⟩
    | panic => exact ⟨fun h => absurd h (by simp), fun rows h => absurd h (by simp)⟩
  | ok st =>
    refine ⟨fun h => absurd h (outLoop_ne_open _ _ _), ?_⟩
    intro rows h
    obtain ⟨rows', hr, hloop⟩ := readAll_loop_of_outLoop _ st [] rows true 0 [] (openReader_frame cols dc file st ho).2 h
    have hcols : st.cols = cols := (openReader_frame cols dc file st ho).1
    simp only [List.nil_append] at hr hloop
    subst hr
    refine ⟨st.rows, ?_⟩
    simp only [hloop, hcols, Nat.zero_add, if_true]
    exact status_line _ "err" _

/-- **The text driver is determined by `readAllEntries`**: whenever the latter succeeds with `n` rows
`rows`, `readAll` (whose output is compared with the Go program's on every run) prints `open=ok`,
`rows=n`, one `Next` per row, `err=ok`, and the `Scan` text of each row. -/
theorem readAll_of_entries (cols : List Col) (dc : Decomp) (file : Bytes) (n : Int)
    (rows : List Row) (h : readAllEntries cols dc file = some (n, rows)) :
    readAll cols dc file =
      s!"open=ok rows={n} nexts={rows.length} err=ok recs={if (rows.map (rowText cols)).isEmpty then "-" else ";".intercalate (rows.map (rowText cols))}" := by
  unfold readAllEntries at h
  unfold readAll
  cases ho : openReader cols dc file with
  | error e => rw [ho] at h; exact absurd h (by simp)
  | ok st =>
    rw [ho] at h
    simp only [Option.map_eq_some_iff, Prod.mk.injEq] at h
    obtain ⟨res, hl, hn, hres⟩ := h
    obtain ⟨rows', hr, hloop⟩ := readAll_loop_of_outLoop _ st [] res false 0 [] (openReader_frame cols dc file st ho).2
      (outLoop_of_readLoop _ st [] res hl)
    have hcols : st.cols = cols := (openReader_frame cols dc file st ho).1
    simp only [List.nil_append] at hr hloop
    subst hr
    subst hres
    subst hn
    simp only [hloop, hcols, Nat.zero_add]
    exact status_line _ "ok" _

end PQ
