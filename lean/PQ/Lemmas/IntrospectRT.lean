import PQ.Lemmas.ReaderRT
/-!
# The introspection calls on the files the writer lays out

`PageHeadersAtOffset` is followed over any run of pages lying back to back (`GPage.Walks`, ReaderChunk.lean): from
the first byte of a page it returns the headers of the shortest non-empty prefix whose `num_values` reach `n`
(`coverBy`; `coverPrefix` for the pages of one chunk of the writer model).  What the calls report of one
`ColumnChunk` of the footer is `ChunkListed`; `PageHeaders` concatenates what is listed chunk by chunk
(`pageHeaders_listed`), and every chunk the footer of a written file lists sits where the footer says
(`fileMetas_at`).
-/
namespace PQ
open PQ.Thrift

/-- the pages whose headers `PageHeadersAtOffset` lists: pages are taken while no header was read
yet or the `num_values` read so far are short of `n` -/
def coverPrefix (n : Int) : Int → Bool → List PageEntries → List PageEntries
  | _, _, [] => []
  | nRead, readOne, es :: ess =>
    if !readOne || nRead < n then es :: coverPrefix n (nRead + (es.length : Int)) true ess else []

/-- `coverPrefix` for items of any kind, of sizes `sz` -/
def coverBy {α : Type} (sz : α → Nat) (n : Int) : Int → Bool → List α → List α
  | _, _, [] => []
  | nRead, readOne, x :: xs =>
    if !readOne || nRead < n then x :: coverBy sz n (nRead + (sz x : Int)) true xs else []

theorem coverPrefix_eq_coverBy (n : Int) : ∀ (ess : List PageEntries) (nRead : Int) (readOne : Bool),
    coverPrefix n nRead readOne ess = coverBy List.length n nRead readOne ess
  | [], _, _ => rfl
  | es :: ess, nRead, readOne => by
    rw [coverPrefix, coverBy, coverPrefix_eq_coverBy n ess]

theorem coverBy_map {α β : Type} (sz : α → Nat) (f : β → α) (n : Int) : ∀ (l : List β) (nRead : Int) (readOne : Bool),
    coverBy sz n nRead readOne (l.map f) = (coverBy (fun x => sz (f x)) n nRead readOne l).map f
  | [], _, _ => rfl
  | x :: l, nRead, readOne => by
    simp only [List.map_cons, coverBy, coverBy_map sz f n l]
    split <;> rfl

theorem pageHeadersAt_go_gen (n : Int) (file : Bytes) :
    ∀ (ps : List GPage) (pos fuel : Nat) (post : Bytes) (nRead : Int) (readOne : Bool) (acc : List PHdr),
      ps.length < fuel → n ≤ nRead + (((ps.map (·.es.length)).sum : Nat) : Int) → (readOne = true ∨ ps ≠ []) →
      (∀ p ∈ ps, p.Walks) → file.drop pos = pagesBytes ps ++ post →
      pageHeadersAt.go file n fuel pos nRead readOne acc =
        .ok (acc ++ (coverBy (·.es.length) n nRead readOne ps).map (·.ph))
  | [], pos, fuel, post, nRead, readOne, acc, hf, hn, hr, _, _ => by
    cases fuel with
    | zero => omega
    | succ f =>
      have hro : readOne = true := by
        cases hr with
        | inl h => exact h
        | inr h => exact absurd rfl h
      subst hro
      simp only [List.map_nil, List.sum_nil, Int.natCast_zero, Int.add_zero] at hn
      rw [pageHeadersAt.go, if_neg (by simp; omega)]
      simp [coverBy]
  | p :: ps, pos, fuel, post, nRead, readOne, acc, hf, hn, _, hw, hl => by
    cases fuel with
    | zero => omega
    | succ f =>
      by_cases hcond : (!readOne || nRead < n) = true
      · simp only [List.map_cons, List.sum_cons, Int.natCast_add] at hn
        have hp := hw p List.mem_cons_self
        rw [pagesBytes_cons, List.append_assoc, List.append_assoc] at hl
        obtain ⟨t, h1, h2⟩ := hp.read file pos _ hl
        obtain ⟨e, de, re, st, hd⟩ := hp.dph
        have ih := pageHeadersAt_go_gen n file ps (pos + p.hdr.length + p.body.length) f post (nRead + (p.es.length : Int)) true
          (acc ++ [p.ph]) (by simp only [List.length_cons] at hf; omega) (by omega) (Or.inl rfl)
          (fun q hq => hw q (List.mem_cons_of_mem _ hq)) (drop_add_of_drop_eq (drop_add_of_drop_eq hl))
        rw [pageHeadersAt.go, if_pos hcond]
        simp only [h1, h2, hp.compressed]
        rw [if_neg (by omega)]
        simp only [hd]
        rw [show ((((pos + p.hdr.length : Nat) : Int) + ((p.body.length : Nat) : Int)).toNat) = pos + p.hdr.length + p.body.length by omega,
          ih, coverBy, if_pos hcond]
        simp only [List.map_cons, List.append_assoc, List.cons_append, List.nil_append]
      · rw [pageHeadersAt.go, if_neg hcond, coverBy, if_neg hcond]
        simp

/-- **`PageHeadersAtOffset(r, o, n)` at the first byte of any page of a run of pages** (`ps`: the pages from
there on), for any `n` up to their `num_values`: the headers of the shortest non-empty prefix of `ps` whose
`num_values` reach `n`. -/
theorem pageHeadersAt_gen (file : Bytes) (pos : Nat) (ps : List GPage) (n : Int) (hne : ps ≠ [])
    (hn : n ≤ (((ps.map (·.es.length)).sum : Nat) : Int)) (hw : ∀ p ∈ ps, p.Walks) {post : Bytes}
    (hl : file.drop pos = pagesBytes ps ++ post) :
    pageHeadersAt file (pos : Nat) n = .ok ((coverBy (·.es.length) n 0 (decide (n > 0)) ps).map (·.ph)) := by
  have hfuel : ps.length < file.length + 2 := by
    obtain ⟨f, hf⟩ := pages_fuel (fun p hp => (hw p hp).pos) hl
    omega
  unfold pageHeadersAt
  rw [if_neg (by omega)]
  show pageHeadersAt.go file n (file.length + 2) ((pos : Nat) : Int).toNat 0 (decide (n > 0)) [] = _
  rw [Int.toNat_natCast, pageHeadersAt_go_gen n file ps pos _ post 0 (decide (n > 0)) [] hfuel (by omega) (Or.inr hne) hw hl]
  rfl

/-- `coverPrefix_eq_take` from anywhere in the loop, with `nRead` values read so far: `j` more pages are taken if `j`
is in range and at least 1 unless a header was read already (the loop reads one header in any case), `j` pages reach
`n`, and no fewer do (`i < j`, with the same proviso) -/
theorem coverPrefix_eq_take_aux (n : Int) :
    ∀ (ess : List PageEntries) (nRead : Int) (readOne : Bool) (j : Nat),
      (readOne = false → 1 ≤ j) → j ≤ ess.length →
      n ≤ nRead + ((((ess.take j).map List.length).sum : Nat) : Int) →
      (∀ i, (readOne = false → 1 ≤ i) → i < j → nRead + ((((ess.take i).map List.length).sum : Nat) : Int) < n) →
      coverPrefix n nRead readOne ess = ess.take j
  | [], nRead, readOne, j, _, hj, _, _ => by
    have : j = 0 := by simpa using hj
    subst this
    rfl
  | es :: ess, nRead, readOne, 0, h1, _, hn, _ => by
    have hro : readOne = true := by
      cases readOne with
      | true => rfl
      | false => exact absurd (h1 rfl) (by omega)
    subst hro
    simp only [List.take_zero, List.map_nil, List.sum_nil, Int.natCast_zero, Int.add_zero] at hn
    rw [coverPrefix, if_neg (by simp; omega)]
    rfl
  | es :: ess, nRead, readOne, j + 1, _, hj, hn, hmin => by
    have hcond : (!readOne || nRead < n) = true := by
      cases readOne with
      | false => rfl
      | true =>
        have := hmin 0 (fun h => by cases h) (by omega)
        simp only [List.take_zero, List.map_nil, List.sum_nil, Int.natCast_zero, Int.add_zero] at this
        simp [this]
    simp only [List.take_succ_cons, List.map_cons, List.sum_cons, Int.natCast_add] at hn
    rw [coverPrefix, if_pos hcond, List.take_succ_cons]
    congr 1
    apply coverPrefix_eq_take_aux n ess (nRead + (es.length : Int)) true j (fun h => by cases h)
      (by simp only [List.length_cons] at hj; omega) (by omega)
    intro i _ hi
    have := hmin (i + 1) (fun _ => by omega) (by omega)
    simp only [List.take_succ_cons, List.map_cons, List.sum_cons, Int.natCast_add] at this
    omega

/-- **`coverPrefix` from the start of a chunk is the shortest non-empty prefix of the chunk's pages
whose `num_values` reach `n`.** -/
theorem coverPrefix_eq_take (n : Int) (ess : List PageEntries) (j : Nat) (h1 : 1 ≤ j) (hj : j ≤ ess.length)
    (hn : n ≤ ((((ess.take j).map List.length).sum : Nat) : Int))
    (hmin : ∀ i, 1 ≤ i → i < j → ((((ess.take i).map List.length).sum : Nat) : Int) < n) :
    coverPrefix n 0 (decide (n > 0)) ess = ess.take j := by
  apply coverPrefix_eq_take_aux n ess 0 (decide (n > 0)) j (fun _ => h1) hj (by omega)
  intro i hi hij
  cases i with
  | zero =>
    have : ¬ decide (n > 0) = false := fun h => absurd (hi h) (by omega)
    simp only [List.take_zero, List.map_nil, List.sum_nil, Int.natCast_zero, Int.add_zero]
    simpa using this
  | succ i =>
    have := hmin (i + 1) (by omega) hij
    omega

theorem coverBy_all {α : Type} (sz : α → Nat) (n : Int) :
    ∀ (xs : List α) (nRead : Int) (readOne : Bool), (∀ x ∈ xs, 1 ≤ sz x) →
      nRead + (((xs.map sz).sum : Nat) : Int) = n → coverBy sz n nRead readOne xs = xs
  | [], _, _, _, _ => rfl
  | x :: xs, nRead, readOne, hne, hn => by
    have hpos := hne x List.mem_cons_self
    simp only [List.map_cons, List.sum_cons, Int.natCast_add] at hn
    have hcond : (!readOne || nRead < n) = true := by
      have : nRead < n := by omega
      simp [this]
    rw [coverBy, if_pos hcond,
      coverBy_all sz n xs (nRead + (sz x : Int)) true (fun e he => hne e (List.mem_cons_of_mem _ he)) (by omega)]

theorem coverPrefix_all (n : Int) (ess : List PageEntries) (nRead : Int) (readOne : Bool) (hne : ∀ es ∈ ess, es ≠ [])
    (hn : nRead + (((ess.map List.length).sum : Nat) : Int) = n) : coverPrefix n nRead readOne ess = ess := by
  rw [coverPrefix_eq_coverBy, coverBy_all List.length n ess nRead readOne (fun es h => List.length_pos_iff.mpr (hne es h)) hn]

theorem coverBy_nonpos {α : Type} (sz : α → Nat) (n : Int) (hn : n ≤ 0) (x : α) (xs : List α) :
    coverBy sz n 0 (decide (n > 0)) (x :: xs) = [x] := by
  have h0 : decide (n > 0) = false := by simpa using hn
  cases xs with
  | nil => simp [coverBy, h0]
  | cons y ys => simp [coverBy, h0]; omega

theorem pageHeadersAt_cover (k : Codec) (c : Col) (ess : List PageEntries) {file : Bytes} {pos : Nat} {post : Bytes}
    (hd : file.drop pos = chunkBytes k c ess ++ post) (n : Int)
    (hne : ess ≠ []) (hn : n ≤ (((ess.map List.length).sum : Nat) : Int)) :
    pageHeadersAt file (pos : Nat) n = .ok ((coverPrefix n 0 (decide (n > 0)) ess).map (phOf k c)) := by
  have := pageHeadersAt_gen file pos (ess.map (libPage k c)) n (by simpa using hne)
    (by simpa [List.map_map, Function.comp_def, libPage] using hn)
    (by intro p hp; obtain ⟨es, _, rfl⟩ := List.mem_map.mp hp; exact libPage_walks k c es)
    (post := post) (by rw [pagesBytes_libPage]; exact hd)
  rw [this, coverBy_map, List.map_map, coverPrefix_eq_coverBy]
  rfl

/-- the body of the loop of `PageHeaders` -/
def phStep (file : Bytes) (acc : List PHdr) (ch : ChunkMeta) : R (List PHdr) :=
  match ch.md with
  | none => .error .panic
  | some m =>
    if m.totalCompressed = 0 then .ok acc else
    match pageHeadersAt file m.dataPageOffset m.numValues with
    | .error e => .error e
    | .ok hs => .ok (acc ++ hs)

theorem pageHeaders_eq (file : Bytes) (f : FMD) :
    pageHeaders file f = (f.rowGroups.flatMap (·.columns)).foldlM (phStep file) [] := rfl

/-- `hs` is what the introspection calls report of the column chunk `ch` of `file`: a chunk without bytes
(`total_compressed_size = 0`, a row group without rows) is skipped by `PageHeaders`; for any other,
`PageHeadersAtOffset` at the chunk's `data_page_offset` asked for the chunk's `num_values` returns `hs`, and
asked for 0 values it returns just the first of them. -/
def ChunkListed (file : Bytes) (ch : ChunkMeta) (hs : List PHdr) : Prop :=
  ∃ m, ch.md = some m ∧
    ((m.totalCompressed = 0 ∧ hs = []) ∨
     (m.totalCompressed ≠ 0 ∧ pageHeadersAt file m.dataPageOffset m.numValues = .ok hs ∧
       ∃ h tl, hs = h :: tl ∧ pageHeadersAt file m.dataPageOffset 0 = .ok [h]))

/-- **One column chunk, wherever it lies**: pages, none of them empty, lying at `pos`, and a footer entry that
gives `pos`, their total `num_values` and their length. -/
theorem chunkListed_of_pages (file : Bytes) (ps : List GPage) (hw : ∀ p ∈ ps, p.Walks) (hne : ∀ p ∈ ps, p.es ≠ [])
    {pos : Nat} {post : Bytes} (hl : file.drop pos = pagesBytes ps ++ post) (ch : ChunkMeta) (m : ColMeta)
    (hm : ch.md = some m) (hoff : m.dataPageOffset = ((pos : Nat) : Int))
    (hn : m.numValues = (((ps.map (·.es.length)).sum : Nat) : Int))
    (hsz : m.totalCompressed = (((pagesBytes ps).length : Nat) : Int)) : ChunkListed file ch (ps.map (·.ph)) := by
  refine ⟨m, hm, ?_⟩
  cases ps with
  | nil => exact Or.inl ⟨hsz, rfl⟩
  | cons p ps =>
    have hlen := pagesBytes_length_ge (p :: ps) (fun q hq => (hw q hq).pos)
    simp only [List.length_cons] at hlen
    rw [hoff, hn]
    refine Or.inr ⟨by omega, ?_, p.ph, ps.map (·.ph), rfl, ?_⟩
    · rw [pageHeadersAt_gen file pos (p :: ps) _ (by simp) (by omega) hw hl,
        coverBy_all _ _ _ 0 _ (fun q hq => List.length_pos_iff.mpr (hne q hq)) (by omega)]
    · rw [pageHeadersAt_gen file pos (p :: ps) 0 (by simp) (by omega) hw hl, coverBy_nonpos _ 0 (by omega)]
      rfl

/-- the two lists have the same length and corresponding elements are related -/
inductive Forall2 {α β : Type} (R : α → β → Prop) : List α → List β → Prop
  | nil : Forall2 R [] []
  | cons {a : α} {b : β} {l₁ : List α} {l₂ : List β} : R a b → Forall2 R l₁ l₂ → Forall2 R (a :: l₁) (b :: l₂)

theorem forall2_append {α β : Type} {R : α → β → Prop} :
    ∀ {a c : List α} {b d : List β}, Forall2 R a b → Forall2 R c d → Forall2 R (a ++ c) (b ++ d)
  | _, _, _, _, .nil, h => h
  | _, _, _, _, .cons h1 h2, h => .cons h1 (forall2_append h2 h)

theorem Forall2.length_eq {α β : Type} {R : α → β → Prop} : ∀ {a : List α} {b : List β}, Forall2 R a b → a.length = b.length
  | _, _, .nil => rfl
  | _, _, .cons _ h => by simp [Forall2.length_eq h]

theorem Forall2.of_mem_left {α β : Type} {R : α → β → Prop} :
    ∀ {a : List α} {b : List β}, Forall2 R a b → ∀ x ∈ a, ∃ y ∈ b, R x y
  | _, _, .nil, x, hx => by simp at hx
  | _, _, .cons (b := y) h1 h2, x, hx => by
    rcases List.mem_cons.mp hx with rfl | hx
    · exact ⟨y, List.mem_cons_self, h1⟩
    · obtain ⟨y', hy', hr⟩ := Forall2.of_mem_left h2 x hx
      exact ⟨y', List.mem_cons_of_mem _ hy', hr⟩

theorem Forall2.imp_map {α β γ : Type} {R : α → β → Prop} {S : α → γ → Prop} (f : β → γ) :
    ∀ {a : List α} {b : List β}, Forall2 R a b → (∀ x, ∀ y ∈ b, R x y → S x (f y)) → Forall2 S a (b.map f)
  | _, _, .nil, _ => .nil
  | _, _, .cons h1 h2, h =>
    .cons (h _ _ List.mem_cons_self h1) (h2.imp_map f fun x y hy => h x y (List.mem_cons_of_mem _ hy))

/-- **`PageHeaders` concatenates what is listed chunk by chunk.** -/
theorem pageHeaders_listed (file : Bytes) (f : FMD) (hss : List (List PHdr))
    (h : Forall2 (ChunkListed file) (f.rowGroups.flatMap (·.columns)) hss) : pageHeaders file f = .ok hss.flatten := by
  have hfold : ∀ (chs : List ChunkMeta) (hss : List (List PHdr)), Forall2 (ChunkListed file) chs hss →
      ∀ acc : List PHdr, chs.foldlM (phStep file) acc = .ok (acc ++ hss.flatten) := by
    intro chs hss h
    induction h with
    | nil => intro acc; simp [pure, Except.pure]
    | @cons ch hs chs hss h1 _ ih =>
      intro acc
      obtain ⟨m, hm, h1⟩ := h1
      have hstep : phStep file acc ch = .ok (acc ++ hs) := by
        rcases h1 with ⟨h0, rfl⟩ | ⟨h0, h1, _⟩
        · simp only [phStep, hm, if_pos h0, List.append_nil]
        · simp only [phStep, hm, if_neg h0, h1]
      simp only [List.foldlM_cons, hstep, bind, Except.bind, ih, List.flatten_cons, List.append_assoc]
  rw [pageHeaders_eq, hfold _ _ h, List.nil_append]

/-- the headers of the pages of one chunk, of one row group, of all row groups: in file order -/
def chunkHdrs (k : Codec) (p : PItem) : List PHdr := p.2.map (phOf k p.1)
def rgHdrs (k : Codec) (pits : List PItem) : List PHdr := pits.flatMap (chunkHdrs k)
def fileHdrs (k : Codec) (prgs : List (Nat × List PItem)) : List PHdr := prgs.flatMap fun g => rgHdrs k g.2

/-- what listing a chunk's pages needs: `PageHeadersAtOffset` reads a first header whatever lies at the offset, and
stops as soon as the chunk's `num_values` are reached — before an empty last page -/
def PagesNE (p : PItem) : Prop := p.2 ≠ [] ∧ ∀ es ∈ p.2, es ≠ []

/-- the footer entry `ch` is that of the chunk `p`, which lies where it says -/
def ChunkAt (k : Codec) (file : Bytes) (ch : ChunkMeta) (p : PItem) : Prop :=
  ∃ (pos : Nat) (post : Bytes), file.drop pos = chunkBytes k p.1 p.2 ++ post ∧
    ch = chunkMetaOf p.1 k.id (colChunk k p.1 p.2) pos

theorem ChunkAt.listed {k : Codec} {file : Bytes} {ch : ChunkMeta} {p : PItem} (h : ChunkAt k file ch p) (hp : PagesNE p) :
    ChunkListed file ch (chunkHdrs k p) := by
  obtain ⟨pos, post, hd, rfl⟩ := h
  have := chunkListed_of_pages file (p.2.map (libPage k p.1))
    (by intro q hq; obtain ⟨es, _, rfl⟩ := List.mem_map.mp hq; exact libPage_walks k p.1 es)
    (by intro q hq; obtain ⟨es, hes, rfl⟩ := List.mem_map.mp hq; exact hp.2 es hes)
    (post := post) (by rw [pagesBytes_libPage]; exact hd) (chunkMetaOf p.1 k.id (colChunk k p.1 p.2) pos) _ rfl rfl
    (by simp only [colChunk_numValues, List.map_map, Function.comp_def, libPage])
    (by rw [pagesBytes_libPage, colChunk_totalCompressed])
  rwa [List.map_map] at this

theorem rgMetas_at (k : Codec) (file : Bytes) :
    ∀ (pits : List PItem) (pos : Nat) (post : Bytes), file.drop pos = pitemsBytes k pits ++ post →
      Forall2 (ChunkAt k file) (rgMetas k pits pos) pits
  | [], _, _, _ => .nil
  | p :: rest, pos, post, hd => by
    rw [pitemsBytes_cons, List.append_assoc] at hd
    exact .cons ⟨pos, _, hd, rfl⟩ (rgMetas_at k file rest _ post (drop_add_of_drop_eq hd))

/-- **Every chunk the footer lists sits where the footer says**: the row groups laid out back to back from `pos`. -/
theorem fileMetas_at (k : Codec) (file : Bytes) :
    ∀ (prgs : List (Nat × List PItem)) (pos : Nat) (post : Bytes), file.drop pos = prgsBytes k prgs ++ post →
      Forall2 (ChunkAt k file) ((fileMetas k prgs pos).flatMap (·.columns)) (prgs.flatMap (·.2))
  | [], _, _, _ => .nil
  | g :: rest, pos, post, hd => by
    rw [prgsBytes_cons, List.append_assoc] at hd
    simp only [fileMetas, List.flatMap_cons, rgMetaOf]
    exact forall2_append (rgMetas_at k file g.2 pos _ hd) (fileMetas_at k file rest _ post (drop_add_of_drop_eq hd))

theorem histPrgs_pagesNE (dc : Decomp) (k : Codec) (cols : List Col) {max : Nat} (hmax : 1 ≤ max) (body : List Op)
    (hok : ∀ b ∈ batches body, BatchOK dc k cols max b) :
    ∀ g ∈ histPrgs cols max body, ∀ p ∈ g.2, PagesNE p := by
  intro g hg p hp
  obtain ⟨b, hb, rfl⟩ := List.mem_map.mp hg
  have hne : b ≠ [] := batches_ne_nil body b hb
  refine ⟨?_, fun es hes => ((batch_rd dc k cols hmax b hne (hok b hb)).2.1 p hp es hes).ne⟩
  simp only at hp
  obtain ⟨x, hx, rfl⟩ := List.mem_map.mp hp
  obtain ⟨c, i⟩ := x
  simp only
  rw [colEntries_chain hmax cols.length i (List.mem_zipIdx' hx).1 b hne (hok b hb).width]
  intro h
  have hc : chunksOf max b = [] := by simpa using h
  have := chunksOf_flatten hmax b
  rw [hc] at this
  exact hne this.symm

end PQ
