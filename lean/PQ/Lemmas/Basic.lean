import PQ.Model.Bytes
/-!
General list and byte facts used in several places; nothing here mentions the model beyond `PQ.Model.Bytes`.
-/
namespace PQ

theorem set_append_length {α} (a : List α) (x y : α) (b : List α) : (a ++ x :: b).set a.length y = a ++ y :: b := by
  rw [List.set_append_right _ _ (Nat.le_refl _), Nat.sub_self, List.set_cons_zero]

theorem modify_append_length {α} (a : List α) (x : α) (b : List α) (f : α → α) :
    (a ++ x :: b).modify a.length f = a ++ f x :: b := by
  induction a with
  | nil => simp
  | cons y a ih => simp [ih]

theorem modify_append_left {α} (f : α → α) : ∀ (l x : List α) (i : Nat), i < l.length →
    (l ++ x).modify i f = l.modify i f ++ x
  | [], _, _, h => by simp at h
  | _ :: _, _, 0, _ => by simp
  | _ :: l, x, i+1, h => by
    simp only [List.cons_append, List.modify_succ_cons, modify_append_left f l x i (Nat.lt_of_succ_lt_succ h)]

/-! What lies at a position of `l` is said as `l.drop pos = a ++ b`. -/

theorem drop_of_eq_append {α : Type} {l a b : List α} (h : l = a ++ b) {n : Nat} (hn : a.length = n) :
    l.drop n = b := by
  subst h; exact List.drop_left' hn

theorem drop_add_of_drop_eq {α : Type} {l a b : List α} {pos : Nat} (h : l.drop pos = a ++ b) :
    l.drop (pos + a.length) = b := by
  rw [← List.drop_drop, h, List.drop_left]

theorem length_le_of_drop_eq {α : Type} {l a b : List α} {pos : Nat} (h : l.drop pos = a ++ b) : a.length ≤ l.length := by
  have := congrArg List.length h
  simp only [List.length_drop, List.length_append] at this
  omega

theorem drop_length_sub_append {α} (a : List α) {b : List α} {n : Nat} (h : b.length = n) :
    (a ++ b).drop ((a ++ b).length - n) = b := by
  rw [List.length_append, h, Nat.add_sub_cancel, List.drop_left]

theorem flatMap_congr {α β} {f g : α → List β} {l : List α} (h : ∀ x ∈ l, f x = g x) : l.flatMap f = l.flatMap g := by
  rw [List.flatMap_def, List.flatMap_def, List.map_congr_left h]

theorem length_flatMap_const {α β} (k : Nat) (f : α → List β) (l : List α) (h : ∀ x ∈ l, (f x).length = k) :
    (l.flatMap f).length = k * l.length := by
  rw [List.length_flatMap, List.map_congr_left h, List.map_const', List.sum_replicate_nat, Nat.mul_comm]

theorem length_flatten_const {α} (k : Nat) (l : List (List α)) (h : ∀ x ∈ l, x.length = k) :
    l.flatten.length = k * l.length := by
  rw [← List.flatMap_id]; exact length_flatMap_const k id l h

theorem flatten_flatMap {α β} (f : α → List (List β)) (l : List α) :
    (l.flatMap f).flatten = l.flatMap fun x => (f x).flatten := by
  rw [List.flatMap_def, List.flatten_flatten, List.map_map, List.flatMap_def]; rfl

theorem sum_map_cast {α} (l : List α) (f : α → Nat) :
    (l.map fun x => ((f x : Nat) : Int)).sum = (((l.map f).sum : Nat) : Int) := by
  induction l with
  | nil => rfl
  | cons a l ih => simp only [List.map_cons, List.sum_cons, ih, Int.natCast_add]

theorem getD_map {α β} (f : α → β) (l : List α) (j : Nat) (d : α) : (l.map f).getD j (f d) = f (l.getD j d) := by
  simp only [List.getD_eq_getElem?_getD, List.getElem?_map]; cases l[j]? <;> rfl

theorem mem_zipIdx_take {α} (l : List α) (k j : Nat) (x : α × Nat) (h : x ∈ (l.take k).zipIdx j) : x ∈ l.zipIdx j := by
  rw [← List.take_append_drop k l, List.zipIdx_append]
  exact List.mem_append_left _ h

theorem mapM_some_of_isSome {α β} (f : α → Option β) : ∀ (l : List α), (∀ x ∈ l, (f x).isSome) →
    ∃ r, l.mapM f = some r
  | [], _ => ⟨[], rfl⟩
  | x :: l, h => by
    obtain ⟨r, hr⟩ := mapM_some_of_isSome f l (fun y hy => h y (List.mem_cons_of_mem _ hy))
    obtain ⟨y, hy⟩ := Option.isSome_iff_exists.mp (h x List.mem_cons_self)
    exact ⟨y :: r, by simp only [List.mapM_cons, hy, hr, bind, Option.bind, pure]⟩

/-- a small number `c` below a multiple of `m`: the two are read back by `%` and `/` -/
theorem add_mul_mod_div (c a : Nat) {m : Nat} (hc : c < m) : (c + a * m) % m = c ∧ (c + a * m) / m = a :=
  ⟨by rw [Nat.add_mul_mod_self_right, Nat.mod_eq_of_lt hc],
    by rw [Nat.add_mul_div_right _ _ (Nat.zero_lt_of_lt hc), Nat.div_eq_of_lt hc, Nat.zero_add]⟩

theorem leBytes_length (k x : Nat) : (leBytes k x).length = k := by
  induction k generalizing x with
  | zero => rfl
  | succ k ih => simp [leBytes, ih]

theorem fromLE_leBytes (k x : Nat) (h : x < 256 ^ k) : fromLE (leBytes k x) = x := by
  induction k generalizing x with
  | zero => simp at h; simp [leBytes, fromLE, h]
  | succ k ih =>
    simp only [leBytes, fromLE]
    have : x / 256 < 256 ^ k := by
      rw [Nat.pow_succ] at h
      exact Nat.div_lt_of_lt_mul (by rw [Nat.mul_comm]; exact h)
    rw [ih _ this]; omega

theorem le32_length (n : Nat) : (le32 n).length = 4 := leBytes_length 4 n

theorem fromLE_le32 (n : Nat) (h : n < 2 ^ 32) : fromLE (le32 n) = n :=
  fromLE_leBytes 4 n (by have : (256 : Nat) ^ 4 = 2 ^ 32 := by decide
                         omega)

theorem le32_take (n : Nat) (h : n < 2 ^ 32) (rest : Bytes) :
    fromLE ((le32 n ++ rest).take 4) = n ∧ (le32 n ++ rest).drop 4 = rest :=
  ⟨by rw [List.take_left' (le32_length n), fromLE_le32 n h], List.drop_left' (le32_length n)⟩

/-- `magic ‖ data ‖ footer ‖ le32 |footer| ‖ magic`: its length and the four things every entry point (`parseFile`,
`openReader`, `readMetaData`) computes to find the footer.  `m` is a variable: only its length matters. -/
theorem trailer {m : Bytes} (hm : m.length = 4) (data fenc : Bytes) (hn : fenc.length < 2 ^ 32) {file : Bytes}
    (hfile : file = m ++ data ++ (fenc ++ le32 fenc.length ++ m)) :
    file.length = 4 + data.length + fenc.length + 8 ∧ file.take 4 = m ∧ file.drop (file.length - 4) = m ∧
    fromLE ((file.drop (file.length - 8)).take 4) = fenc.length ∧
    file.drop (file.length - (fenc.length + 8)) = fenc ++ (le32 fenc.length ++ m) := by
  subst hfile
  have hl := le32_length fenc.length
  refine ⟨by simp only [List.length_append, hl, hm]; omega, ?_, ?_, ?_, ?_⟩
  · rw [List.append_assoc, List.take_left' hm]
  · rw [← List.append_assoc]; exact drop_length_sub_append _ hm
  · rw [List.append_assoc fenc, ← List.append_assoc (m ++ data),
      drop_length_sub_append _ (by simp only [List.length_append, hl, hm]), List.take_left' hl, fromLE_le32 _ hn]
  · rw [List.append_assoc fenc]; exact drop_length_sub_append _ (by simp only [List.length_append, hl, hm])

theorem leBytes_lt (k x : Nat) : ∀ b ∈ leBytes k x, b < 256 := by
  induction k generalizing x with
  | zero => intro b hb; cases hb
  | succ k ih =>
    intro b hb
    rcases List.mem_cons.mp hb with rfl | hb
    · exact Nat.mod_lt _ (by decide)
    · exact ih _ b hb

theorem uleb_length_pos (n : Nat) : 0 < (uleb n).length := by
  rw [uleb]; split <;> exact Nat.succ_pos _

theorem uleb_lt (n : Nat) : ∀ b ∈ uleb n, b < 256 := by
  induction n using uleb.induct with
  | case1 n h ih =>
    rw [uleb, dif_pos h]
    intro b hb
    rcases List.mem_cons.mp hb with rfl | hb
    · omega
    · exact ih b hb
  | case2 n h =>
    rw [uleb, dif_neg h]
    intro b hb
    rw [List.mem_singleton.mp hb]
    omega

theorem readLeb_uleb (n : Nat) (rest : Bytes) : ∀ fuel, (uleb n).length ≤ fuel →
    readLeb fuel (uleb n ++ rest) = some (n, rest) := by
  induction n using uleb.induct with
  | case1 n h ih =>
    rw [uleb, dif_pos h]
    intro fuel hf
    cases fuel with
    | zero => exact absurd hf (Nat.not_succ_le_zero _)
    | succ f =>
      rw [List.cons_append, readLeb, if_neg (Nat.not_lt.mpr (Nat.le_add_left _ _)), ih f (Nat.le_of_succ_le_succ hf),
        Nat.add_mod_right, Nat.mod_mod]
      exact congrArg (fun x => some (x, rest)) (Nat.mod_add_div n 128)
  | case2 n h =>
    rw [uleb, dif_neg h]
    intro fuel hf
    cases fuel with
    | zero => exact absurd hf (Nat.not_succ_le_zero _)
    | succ f => rw [List.cons_append, readLeb, if_pos (Nat.mod_lt _ (by decide)), Nat.mod_eq_of_lt (by omega)]; rfl

theorem lookup_cons_ne' {α β} [BEq α] [LawfulBEq α] {k k' : α} {v : β} {g : List (α × β)} (h : k ≠ k') :
    List.lookup k ((k', v) :: g) = List.lookup k g := by
  rw [List.lookup_cons]
  have : (k == k') = false := by simpa using h
  rw [this]

end PQ
