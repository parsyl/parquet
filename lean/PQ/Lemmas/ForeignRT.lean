import PQ.Lemmas.SpecLayout
/-!
# The library's reader on whole files of the independent spec writer (C04)

The layout of the file is `specWrite_framed` (Lemmas/SpecLayout.lean), the reader on any such layout
`readAll_gen` (Lemmas/ReadLayout.lean).  What is shown here: the chunks of the unmutated writer are read back
(`chunkReads_spGChunk`, from `readChunk_spSplit`, Lemmas/ForeignPage.lean), hence every row group that no
mutation touches is one the reader handles (`swGroups_ok`); then the whole-file theorem `readAll_specWrite`.
-/
namespace PQ
open PQ.Thrift

theorem spCodecOK_of (dc : Decomp) (compress : Nat → Bytes → Bytes) (codec : Nat) (hc : codec ≤ 2)
    (hdc : ∀ raw, dc.snappy (compress 1 raw) = some raw ∧ dc.gzip (compress 2 raw) = some raw) :
    ∀ raw, SpCodecOK dc codec (compress codec) raw := by
  intro raw
  have h : codec = 0 ∨ codec = 1 ∨ codec = 2 := by omega
  rcases h with rfl | rfl | rfl
  · exact Or.inl rfl
  · exact Or.inr (Or.inl ⟨rfl, (hdc raw).1⟩)
  · exact Or.inr (Or.inr ⟨rfl, (hdc raw).2⟩)

/-- what the whole-file theorems assume of the column `c` (number `ci`, codec id `codec`) in the row group `recs` -/
structure SpColOK (recs : List Rec) (c : Col) (codec ci : Nat) : Prop where
  hcodec : codec ≤ 2
  hrec : ∀ r ∈ recs, RecColOK c (r.getD ci [])
  hdef : c.maxDef ≤ 15
  hlen : (recs.flatMap (·.getD ci [])).length + 8 ≤ 2 ^ 28

theorem chunkReads_spGChunk (dc : Decomp) (cfg : SWCfg) (compress : Nat → Bytes → Bytes)
    (hdc : ∀ raw, dc.snappy (compress 1 raw) = some raw ∧ dc.gzip (compress 2 raw) = some raw) {recs : List Rec} {c : Col}
    {codec ci : Nat} (h : SpColOK recs c codec ci) (cs : Choices) :
    ChunkReads dc (spGChunk cfg compress recs c codec ci cs) :=
  readChunk_spSplit dc cfg c codec (compress codec) (spCodecOK_of dc compress codec h.hcodec hdc)
    (recs.map fun r => r.getD ci []) cs ((recs.map fun r => r.getD ci []).length + 1) (by omega)
    (by intro r hr; obtain ⟨r', hr', rfl⟩ := List.mem_map.mp hr; exact h.hrec r' hr') h.hdef
    (by rw [← List.flatMap_def]; exact h.hlen)

theorem spGChunk_col (cfg : SWCfg) (compress : Nat → Bytes → Bytes) (recs : List Rec) (c : Col) (codec ci : Nat)
    (cs : Choices) : (spGChunk cfg compress recs c codec ci cs).col = c := rfl

theorem spGChunk_es (cfg : SWCfg) (compress : Nat → Bytes → Bytes) (recs : List Rec) (c : Col) (codec ci : Nat)
    (cs : Choices) : (spGChunk cfg compress recs c codec ci cs).es = recs.flatMap (·.getD ci []) := by
  simp only [spGChunk, List.flatMap_def]

theorem spChunks_props (dc : Decomp) (cfg : SWCfg) (compress : Nat → Bytes → Bytes)
    (hdc : ∀ raw, dc.snappy (compress 1 raw) = some raw ∧ dc.gzip (compress 2 raw) = some raw) (recs : List Rec) :
    ∀ (ccs : List (Col × Nat)) (ci : Nat) (cs : Choices), (∀ x ∈ ccs.zipIdx ci, SpColOK recs x.1.1 x.1.2 x.2) →
      (spChunks cfg compress recs ccs ci cs).1.map (·.col) = ccs.map (·.1) ∧
      (∀ ch ∈ (spChunks cfg compress recs ccs ci cs).1, ChunkReads dc ch) ∧
      (spChunks cfg compress recs ccs ci cs).1.map (fun ch => colBufOf ch.col ch.es) =
        (ccs.zipIdx ci).map (fun x => colBufOf x.1.1 (recs.flatMap (·.getD x.2 [])))
  | [], ci, cs, _ => by simp [spChunks]
  | (c, codec) :: rest, ci, cs, h => by
    rw [List.zipIdx_cons, List.forall_mem_cons] at h
    obtain ⟨hc, h'⟩ := h
    obtain ⟨i1, i2, i3⟩ := spChunks_props dc cfg compress hdc recs rest (ci + 1) (spChunkCs cfg compress recs c codec ci cs) h'
    rw [spChunks]
    exact ⟨by rw [List.map_cons, List.map_cons, i1, spGChunk_col],
      List.forall_mem_cons.2 ⟨chunkReads_spGChunk dc cfg compress hdc hc cs, i2⟩,
      by rw [List.zipIdx_cons, List.map_cons, List.map_cons, i3, spGChunk_col, spGChunk_es]⟩

theorem mem_zip_zipIdx {α β : Type} {l : List α} {l' : List β} {x : (α × β) × Nat} (h : x ∈ (l.zip l').zipIdx) :
    (x.1.1, x.2) ∈ l.zipIdx ∧ x.1.2 ∈ l' := by
  rw [List.mem_zipIdx_iff_getElem?] at h ⊢
  obtain ⟨h1, h2⟩ := List.getElem?_zip_eq_some.mp h
  exact ⟨h1, List.mem_of_getElem? h2⟩

theorem map_zip_zipIdx {α β γ : Type} (F : α → Nat → γ) {l : List α} {l' : List β} (h : l.length ≤ l'.length) :
    (l.zip l').zipIdx.map (fun x => F x.1.1 x.2) = l.zipIdx.map (fun x => F x.1 x.2) := by
  conv => rhs; rw [← List.map_fst_zip h, List.zipIdx_map, List.map_map]
  rfl

/-- what the whole-file theorems assume of the configuration, the decompressors and the records -/
structure SpFileOK (cfg : SWCfg) (compress : Nat → Bytes → Bytes) (dc : Decomp) (rowGroups : List (List Rec)) : Prop where
  hcodecs : cfg.codecs.length = cfg.cols.length ∧ ∀ c ∈ cfg.codecs, c ≤ 2
  hdc : ∀ raw, dc.snappy (compress 1 raw) = some raw ∧ dc.gzip (compress 2 raw) = some raw
  hrecs : ∀ rg ∈ rowGroups, ∀ r ∈ rg, ∀ x ∈ cfg.cols.zipIdx, RecColOK x.1 (r.getD x.2 [])
  hdef : ∀ c ∈ cfg.cols, c.maxDef ≤ 15
  hlen : ∀ rg ∈ rowGroups, ∀ x ∈ cfg.cols.zipIdx, (rg.flatMap (·.getD x.2 [])).length + 8 ≤ 2 ^ 28

theorem SpFileOK.col {cfg : SWCfg} {compress : Nat → Bytes → Bytes} {dc : Decomp} {rowGroups : List (List Rec)}
    (h : SpFileOK cfg compress dc rowGroups) {recs : List Rec} (hmem : recs ∈ rowGroups) :
    ∀ x ∈ (cfg.cols.zip cfg.codecs).zipIdx, SpColOK recs x.1.1 x.1.2 x.2 := by
  intro x hx
  obtain ⟨a, b⟩ := mem_zip_zipIdx hx
  exact ⟨h.hcodecs.2 _ b, fun r hr => h.hrecs _ hmem r hr _ a, h.hdef _ (List.fst_mem_of_mem_zipIdx (x := (x.1.1, x.2)) a),
    h.hlen _ hmem _ a⟩

/-- row group number `j` of the file, if no mutation touches it — also one without records — is one the reader
handles -/
theorem swGroups_ok {cfg : SWCfg} {compress : Nat → Bytes → Bytes} {dc : Decomp} {rowGroups : List (List Rec)}
    (h : SpFileOK cfg compress dc rowGroups) (mu0 : Option MutAt) (rgi : Nat) (cs : Choices) (pos : Nat)
    (j : Nat) (g : GRG) (hj : (swGroups cfg compress mu0 rowGroups rgi cs pos)[j]? = some g)
    (hoff : ∀ ci, MutOff mu0 (rgi + j) ci) : g.OK dc cfg.cols := by
  obtain ⟨a, hmeta, hrows, d⟩ := swGroups_getElem? cfg compress mu0 rowGroups rgi cs pos j g hj
  rw [swChunks_off cfg compress g.recs _ _ _ fun i _ _ => hoff i] at a
  have hmem : g.recs ∈ rowGroups := List.mem_of_getElem? d
  have hle : cfg.cols.length ≤ cfg.codecs.length := Nat.le_of_eq h.hcodecs.1.symm
  obtain ⟨p1, p2, p3⟩ := spChunks_props dc cfg compress h.hdc g.recs (cfg.cols.zip cfg.codecs) 0 _ (h.col hmem)
  rw [← a] at p1 p2 p3
  refine ⟨⟨?_, hmeta⟩, hrows, p2, ?_, ?_⟩
  · rw [p1, List.map_fst_zip hle]
  · rw [p3, map_zip_zipIdx (fun c i => colBufOf c (g.recs.flatMap (·.getD i []))) hle]
    rfl
  · exact fun r hr x hx => (h.hrecs _ hmem r hr x hx).rd

theorem swGroups_ok_none {cfg : SWCfg} {compress : Nat → Bytes → Bytes} {dc : Decomp} {rowGroups : List (List Rec)}
    (h : SpFileOK cfg compress dc rowGroups) (cs : Choices) :
    ∀ g ∈ swGroups cfg compress none rowGroups 0 cs 4, g.OK dc cfg.cols := by
  intro g hg
  obtain ⟨j, hj⟩ := List.getElem?_of_mem hg
  exact swGroups_ok h none 0 cs 4 j g hj fun ci => MutOff.none _ ci

/-- **C04, whole file: the reader decodes every file of the spec writer, whatever legal encoding choices
it made.**  For every choice stream `cs` (every run segmentation of every level stream of every page,
every page split of every column at record boundaries, independently per column), every padding value
`cfg.padv`, every per-column codec assignment out of uncompressed / snappy / gzip, with or without
statistics and unknown / optional thrift fields (`cfg.withStats`, `cfg.withExtras`): `Rows()` is the
number of written records, `Next()` is true exactly that many times, the `k`-th `Scan` consumes, for every
column, exactly the entries the `k`-th record holds for it, and `Error()` is nil at the end.

* `hres`: the joined column names are pairwise distinct;
* `hrecs`: every record holds, per column, entries that start the record, have levels within the column's
  maxima, a value exactly at the maximum definition level, well-typed values (`RecColOK`, which the Dremel
  striping of a well-typed value satisfies: `recColOK_stripe`);
* `hdef`: level widths ≤ 4 bits.

Row groups may be empty (`num_rows = 0`, every column chunk without pages), anywhere in the file: after loading a
row group `Next` moves on past row groups that hold no rows (`RState.skipEmpty`), and once only such row groups
are left the cursor has reached `Rows()`, so `Next` is false without loading them. -/
theorem readAll_specWrite (cfg : SWCfg) (compress : Nat → Bytes → Bytes) (dc : Decomp) (cs : Choices)
    (rowGroups : List (List Rec))
    (hres : ColsResolve cfg.cols)
    (hcodecs : cfg.codecs.length = cfg.cols.length ∧ ∀ c ∈ cfg.codecs, c ≤ 2)
    (hdc : ∀ raw, dc.snappy (compress 1 raw) = some raw ∧ dc.gzip (compress 2 raw) = some raw)
    (hrecs : ∀ rg ∈ rowGroups, ∀ r ∈ rg, ∀ x ∈ cfg.cols.zipIdx, RecColOK x.1 (r.getD x.2 []))
    (hdef : ∀ c ∈ cfg.cols, c.maxDef ≤ 15)
    (hlen : ∀ rg ∈ rowGroups, ∀ x ∈ cfg.cols.zipIdx, (rg.flatMap (·.getD x.2 [])).length + 8 ≤ 2 ^ 28)
    (hsize : (specWrite cfg compress none cs rowGroups).length < 2 ^ 32) :
    readAllEntries cfg.cols dc (specWrite cfg compress none cs rowGroups) =
      some ((((rowGroups.map List.length).sum : Nat) : Int),
            rowGroups.flatten.map (fun r => (List.range cfg.cols.length).map fun i => r.getD i [])) := by
  obtain ⟨sd, _, hfr⟩ := specWrite_framed cfg compress none cs rowGroups hsize
  have hrows := recsIn_swGroups cfg compress none rowGroups 0 cs 4
  rw [readAll_gen dc cfg.cols _ hres _ (swGroups_ok_none ⟨hcodecs, hdc, hrecs, hdef, hlen⟩ cs) _ hfr rfl
    (by rw [hrows]), hrows, List.flatMap_def, swGroups_recs]
  rfl

/-! ## Non-vacuity: two columns (snappy / gzip), statistics and unknown fields on, padding value 3, two row groups -/
section NonVacuity

private def fwCols : List Col :=
  [{ path := ["a"], reps := [.req], ty := .i32 }, { path := ["b"], reps := [.rpt], ty := .i32 }]
private def fwCfg : SWCfg := { cols := fwCols, codecs := [1, 2], withStats := true, withExtras := true, padv := 3 }
/-- identity "compressors" with identity decompressors: `hdc` holds, and codecs 1 and 2 take the compressed paths -/
private def fwDc : Decomp := { snappy := some, gzip := some }
/-- record `k`: `a = k`, `b = [k, k + 256]` for even `k` and `[]` for odd `k` -/
private def fwRec (k : Nat) : Rec :=
  [[{ rep := 0, dl := 0, val := some [k, 0, 0, 0] }],
   if k % 2 = 0 then [{ rep := 0, dl := 1, val := some [k, 0, 0, 0] }, { rep := 1, dl := 1, val := some [k, 1, 0, 0] }]
   else [{ rep := 0, dl := 0, val := none }]]
private def fwGroups : List (List Rec) := [[fwRec 1, fwRec 2, fwRec 3], [fwRec 4]]
/-- a choice stream: page splits, RLE and bit-packed runs -/
private def fwCs : Choices := [1, 0, 1, 1, 0, 2, 1, 5, 3, 0, 0, 1, 7, 2, 8, 1]

private theorem fw_res : ColsResolve fwCols := colsResolve_of_check _ (by decide +kernel)

/-- the theorem applied — all hypotheses discharged: the reader reports 4 rows and delivers the four written
records, in order.  With this choice stream both columns of the first row group are cut into two pages
(column `a`: 2 + 1 records, column `b`: 3 + 1 entries — a different split per column), the definition
levels are bit-packed runs padded with the *non-zero* value `3 % 2 = 1`, column `a` goes through the snappy
path and column `b` through the gzip path, statistics and unknown fields (id 100) are present. -/
example : readAllEntries fwCols fwDc (specWrite fwCfg (fun _ b => b) none fwCs fwGroups) =
    some (4, [fwRec 1, fwRec 2, fwRec 3, fwRec 4]) :=
  readAll_specWrite fwCfg (fun _ b => b) fwDc fwCs fwGroups fw_res (by decide) (fun raw => ⟨rfl, rfl⟩)
    (by decide) (by decide) (by decide) (by decide +kernel)

/-- row groups without records — in the middle and at the end; at the very start -/
private def fwGroupsE : List (List Rec) := [[fwRec 1], [], [fwRec 2, fwRec 3], []]
private def fwGroupsE' : List (List Rec) := [[], [fwRec 4]]

private theorem fw_recOK (k : Nat) (hk : k < 10) : ∀ x ∈ fwCols.zipIdx, RecColOK x.1 ((fwRec k).getD x.2 []) :=
  (by decide : ∀ k < 10, ∀ x ∈ fwCols.zipIdx, RecColOK x.1 ((fwRec k).getD x.2 [])) k hk

private theorem fw_readE : readAllEntries fwCols fwDc (specWrite fwCfg (fun _ b => b) none fwCs fwGroupsE) =
    some (3, [fwRec 1, fwRec 2, fwRec 3]) :=
  readAll_specWrite fwCfg (fun _ b => b) fwDc fwCs fwGroupsE fw_res (by decide) (fun raw => ⟨rfl, rfl⟩)
    (by decide) (by decide) (by decide) (by decide +kernel)

private theorem fw_readE' : readAllEntries fwCols fwDc (specWrite fwCfg (fun _ b => b) none fwCs fwGroupsE') =
    some (1, [fwRec 4]) :=
  readAll_specWrite fwCfg (fun _ b => b) fwDc fwCs fwGroupsE' fw_res (by decide) (fun raw => ⟨rfl, rfl⟩)
    (by decide) (by decide) (by decide) (by decide +kernel)

/-- the theorem applied to a file with empty row groups in the middle and at the end: 3 rows, the three
written records, nothing else (no zero-valued row for the empty row groups) -/
example : readAllEntries fwCols fwDc (specWrite fwCfg (fun _ b => b) none fwCs fwGroupsE) =
    some (3, [fwRec 1, fwRec 2, fwRec 3]) :=
  fw_readE

/-- ... and to a file whose first row group is empty: the constructor loads it, the first `Next` moves on -/
example : readAllEntries fwCols fwDc (specWrite fwCfg (fun _ b => b) none fwCs fwGroupsE') =
    some (1, [fwRec 4]) :=
  fw_readE'

/-- the same as the derived structural `BEq` compares them, and (by kernel evaluation of the writer and reader
models alone) a file with nothing but empty row groups -/
example : (readAllEntries fwCols fwDc (specWrite fwCfg (fun _ b => b) none fwCs fwGroupsE) ==
    some (3, [fwRec 1, fwRec 2, fwRec 3])) = true := by rw [fw_readE]; decide
example : (readAllEntries fwCols fwDc (specWrite fwCfg (fun _ b => b) none fwCs fwGroupsE') ==
    some (1, [fwRec 4])) = true := by rw [fw_readE']; decide
example : (readAllEntries fwCols fwDc (specWrite fwCfg (fun _ b => b) none fwCs [[], [], []]) ==
    some (0, [])) = true := by decide +kernel

/-! ### parquet-mr style labels: a required, an optional and a repeated column, `mrLabels := true` -/

private def mrCols : List Col :=
  [{ path := ["a"], reps := [.req], ty := .i32 }, { path := ["b"], reps := [.opt], ty := .i32 },
   { path := ["c"], reps := [.rpt], ty := .i32 }]
private def mrCfg : SWCfg :=
  { cols := mrCols, codecs := [0, 1, 2], withStats := true, withExtras := true, padv := 3, mrLabels := true }
/-- record `k`: `a = k`; `b = k` for even `k`, null for odd `k`; `c = [k, k + 256]` for even `k`, `[]` for odd `k` -/
private def mrRec (k : Nat) : Rec :=
  [[{ rep := 0, dl := 0, val := some [k, 0, 0, 0] }],
   if k % 2 = 0 then [{ rep := 0, dl := 1, val := some [k, 0, 0, 0] }] else [{ rep := 0, dl := 0, val := none }],
   if k % 2 = 0 then [{ rep := 0, dl := 1, val := some [k, 0, 0, 0] }, { rep := 1, dl := 1, val := some [k, 1, 0, 0] }]
   else [{ rep := 0, dl := 0, val := none }]]
private def mrGroups : List (List Rec) := [[mrRec 1, mrRec 2, mrRec 3], [mrRec 4]]

private theorem mr_hx : ∀ x ∈ mrCols.zipIdx,
    x = (⟨["a"], [.req], .i32⟩, 0) ∨ x = (⟨["b"], [.opt], .i32⟩, 1) ∨ x = (⟨["c"], [.rpt], .i32⟩, 2) := by
  intro x hx; simpa [mrCols] using hx

/-- the labels this configuration writes: the required column `a` has both level encodings labelled
BIT_PACKED (4), the optional column `b` its repetition-level encoding, the repeated column `c` neither -/
example : (mrCols.map fun c => (mrCfg.defLabel c, mrCfg.repLabel c)) = [(4, 4), (3, 4), (3, 3)] := by decide

/-- ... and they are in the file: it differs from the one written with RLE labels throughout -/
example : specWrite mrCfg (fun _ b => b) none fwCs mrGroups ≠
    specWrite { mrCfg with mrLabels := false } (fun _ b => b) none fwCs mrGroups := by decide +kernel

private theorem mr_read : readAllEntries mrCols fwDc (specWrite mrCfg (fun _ b => b) none fwCs mrGroups) =
    some (4, [mrRec 1, mrRec 2, mrRec 3, mrRec 4]) :=
  readAll_specWrite mrCfg (fun _ b => b) fwDc fwCs mrGroups (colsResolve_of_check _ (by decide +kernel)) (by decide)
    (fun raw => ⟨rfl, rfl⟩) (by decide) (by decide) (by decide) (by decide +kernel)

/-- **the theorem applied to a file with parquet-mr style labels** — all hypotheses discharged: 4 rows and the
four written records, in order, for the required, the optional and the repeated column alike -/
example : readAllEntries mrCols fwDc (specWrite mrCfg (fun _ b => b) none fwCs mrGroups) =
    some (4, [mrRec 1, mrRec 2, mrRec 3, mrRec 4]) :=
  mr_read

/-- the same as the derived `BEq` compares it -/
example : (readAllEntries mrCols fwDc (specWrite mrCfg (fun _ b => b) none fwCs mrGroups) ==
    some (4, [mrRec 1, mrRec 2, mrRec 3, mrRec 4])) = true := by rw [mr_read]; decide

end NonVacuity

end PQ
